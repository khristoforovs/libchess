-- the fixed text: vocabulary, specification (M0), model (M1), published keys
import Chess.Basic
import Chess.Spec.Rules
import Chess.Spec.FenSpec
import Chess.Model.BB
import Chess.Model.Tables
import Chess.Model.Board
import Chess.Model.Zobrist
import Chess.Model.Prims
import Chess.Model.Rng
import Chess.Model.Text
import Chess.Model.Game
import Chess.Model.PgnRegex
import Chess.Model.PgnTags
import Chess.Gen.ZobristKeys
-- rules level
import Chess.Lemmas.List
import Chess.Lemmas.Geo
import Chess.Lemmas.Rules
import Chess.Lemmas.SpecInv
import Chess.Lemmas.LegalMoves
import Chess.Lemmas.FlipGeo
import Chess.Lemmas.Flip
-- bitboards, tables, the board
import Chess.Lemmas.BB
import Chess.Lemmas.Tables
import Chess.Lemmas.Rep
import Chess.Lemmas.Valid
import Chess.Lemmas.MakeMove
import Chess.Lemmas.Hash
import Chess.Lemmas.PinsChecks
import Chess.Lemmas.ChecksSpec
import Chess.Lemmas.Pseudo
import Chess.Lemmas.Castling
import Chess.Lemmas.MoveList
import Chess.Lemmas.LegalJoin
import Chess.Lemmas.Status
import Chess.Lemmas.Construct
-- text, SAN, games, PGN
import Chess.Lemmas.Split
import Chess.Lemmas.Fen
import Chess.Lemmas.San
import Chess.Lemmas.SanBoard
import Chess.Lemmas.GameReach
import Chess.Lemmas.PgnRegex
import Chess.Lemmas.Pgn
-- the properties
import Chess.Props.C01
import Chess.Props.C02
import Chess.Props.C02Clock
import Chess.Props.C03
import Chess.Props.C04
import Chess.Props.C05
import Chess.Props.C06
import Chess.Props.C07
import Chess.Props.C07Keys
import Chess.Props.C07Rng
import Chess.Props.C08
import Chess.Props.C08Board
import Chess.Props.C08Spec
import Chess.Props.C09
import Chess.Props.C10
import Chess.Props.C10Game
import Chess.Props.C10Panic
import Chess.Props.C11
import Chess.Props.C12
import Chess.Props.C12Refine
import Chess.Props.C13
import Chess.Props.C13Render
import Chess.Props.C13Rules
import Chess.Props.C14
import Chess.Props.C14Refine
import Chess.Props.C15
import Chess.Props.C15Import
import Chess.Props.C15Regex
import Chess.Props.C15Tags
import Chess.Props.C16
import Chess.Props.C17
import Chess.Props.C17Index
import Chess.Props.C18
import Chess.Props.C19
import Chess.Props.C19Board
import Chess.Props.C20
import Chess.Props.SpecSanity

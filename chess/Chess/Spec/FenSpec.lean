import Chess.Basic
/-! # FenSpec — an independent, strict reader of standard FEN (PGN specification §16.1)

This file is a SPECIFICATION: it is written from the standard, it does not mention the model's printer
or parser (`Chess/Model/Text.lean`), and it imports only the shared vocabulary `Chess/Basic.lean`.

A FEN record is one line of six fields separated by single spaces:
1. piece placement: eight ranks separated by `/`, rank 8 first; inside a rank, files a→h; a piece letter
   (`PNBRQK` white, `pnbrqk` black) is a man, a digit `1`–`8` is that many empty squares; two digits are
   never adjacent; every rank describes exactly eight squares;
2. active colour: `w` or `b`;
3. castling availability: `-`, or a non-empty selection of the letters `KQkq` in that order;
4. en-passant target square: `-`, or a square written file letter `a`–`h` then rank digit `1`–`8`;
5. halfmove clock and 6. fullmove number: decimal, no sign, no superfluous leading zero.

`read` accepts exactly these texts and returns what they mean. -/
namespace Chess.FenSpec
open Chess

/-- the meaning of a FEN record -/
structure FenRecord where
  placement : Sq → Option Piece
  stm : Color
  castleK : Bool
  castleQ : Bool
  castlek : Bool
  castleq : Bool
  ep : Option Sq
  half : Nat
  full : Nat

/-! ### fields -/

/-- the pieces of `s` between the occurrences of `sep` (always at least one piece, possibly empty ones) -/
def fields (sep : Char) : List Char → List (List Char)
  | [] => [[]]
  | c :: cs =>
    if c = sep then [] :: fields sep cs
    else match fields sep cs with
      | p :: ps => (c :: p) :: ps
      | [] => [[c]]

/-! ### field 1: piece placement -/

def pieceOfChar : Char → Option Piece
  | 'P' => some ⟨.pawn, .white⟩ | 'N' => some ⟨.knight, .white⟩ | 'B' => some ⟨.bishop, .white⟩
  | 'R' => some ⟨.rook, .white⟩ | 'Q' => some ⟨.queen, .white⟩ | 'K' => some ⟨.king, .white⟩
  | 'p' => some ⟨.pawn, .black⟩ | 'n' => some ⟨.knight, .black⟩ | 'b' => some ⟨.bishop, .black⟩
  | 'r' => some ⟨.rook, .black⟩ | 'q' => some ⟨.queen, .black⟩ | 'k' => some ⟨.king, .black⟩
  | _ => none

/-- a digit `1`–`8`: that many empty squares -/
def emptyRun : Char → Option Nat
  | '1' => some 1 | '2' => some 2 | '3' => some 3 | '4' => some 4
  | '5' => some 5 | '6' => some 6 | '7' => some 7 | '8' => some 8
  | _ => none

/-- the squares a rank text describes, file a first.  `afterDigit` tells that the previous character
was a digit: a second digit is then rejected. -/
def readCells (afterDigit : Bool) : List Char → Option (List (Option Piece))
  | [] => some []
  | c :: cs =>
    match pieceOfChar c with
    | some p => (readCells false cs).map (some p :: ·)
    | none =>
      match emptyRun c with
      | some n => if afterDigit then none else (readCells true cs).map (List.replicate n none ++ ·)
      | none => none

/-- one rank: exactly eight squares -/
def readRank (s : List Char) : Option (List (Option Piece)) :=
  match readCells false s with
  | some cells => if cells.length = 8 then some cells else none
  | none => none

/-- eight ranks separated by `/`, rank 8 first; square index = 8·rank + file -/
def readPlacement (s : List Char) : Option (Sq → Option Piece) :=
  match (fields '/' s).mapM readRank with
  | some rows =>
    if rows.length = 8 then some fun sq => (rows.getD (7 - sq.val / 8) []).getD (sq.val % 8) none
    else none
  | none => none

/-! ### field 2: active colour -/

def readSide : List Char → Option Color
  | ['w'] => some .white
  | ['b'] => some .black
  | _ => none

/-! ### field 3: castling availability -/

/-- take the letter `c` off the front if it is there -/
def eat (c : Char) : List Char → Bool × List Char
  | [] => (false, [])
  | x :: xs => if x = c then (true, xs) else (false, x :: xs)

/-- `-`, or at least one of `K`, `Q`, `k`, `q`, each at most once, in this order -/
def readCastling (s : List Char) : Option (Bool × Bool × Bool × Bool) :=
  if s = ['-'] then some (false, false, false, false) else
  let (wk, s1) := eat 'K' s
  let (wq, s2) := eat 'Q' s1
  let (bk, s3) := eat 'k' s2
  let (bq, s4) := eat 'q' s3
  if s4 = [] ∧ (wk || wq || bk || bq) = true then some (wk, wq, bk, bq) else none

/-! ### field 4: en-passant target square -/

def fileOfChar : Char → Option (Fin 8)
  | 'a' => some 0 | 'b' => some 1 | 'c' => some 2 | 'd' => some 3
  | 'e' => some 4 | 'f' => some 5 | 'g' => some 6 | 'h' => some 7
  | _ => none

def rankOfChar : Char → Option (Fin 8)
  | '1' => some 0 | '2' => some 1 | '3' => some 2 | '4' => some 3
  | '5' => some 4 | '6' => some 5 | '7' => some 6 | '8' => some 7
  | _ => none

def readEp : List Char → Option (Option Sq)
  | ['-'] => some none
  | [f, r] =>
    match fileOfChar f, rankOfChar r with
    | some f, some r => some (some ⟨8 * r.val + f.val, by omega⟩)
    | _, _ => none
  | _ => none

/-! ### fields 5 and 6: the clocks -/

def digitVal : Char → Option Nat
  | '0' => some 0 | '1' => some 1 | '2' => some 2 | '3' => some 3 | '4' => some 4
  | '5' => some 5 | '6' => some 6 | '7' => some 7 | '8' => some 8 | '9' => some 9
  | _ => none

/-- the value of a string of decimal digits, most significant first, continuing from `acc` -/
def readDigits (acc : Nat) : List Char → Option Nat
  | [] => some acc
  | c :: cs =>
    match digitVal c with
    | some d => readDigits (10 * acc + d) cs
    | none => none

/-- `0`, or a non-empty digit string that does not start with `0` -/
def readNumber (s : List Char) : Option Nat :=
  if s = [] then none
  else if s = ['0'] then some 0
  else if s.head? = some '0' then none
  else readDigits 0 s

/-! ### the record -/

/-- the strict reader of standard FEN -/
def read (s : List Char) : Option FenRecord :=
  match fields ' ' s with
  | [f1, f2, f3, f4, f5, f6] =>
    match readPlacement f1, readSide f2, readCastling f3, readEp f4, readNumber f5, readNumber f6 with
    | some placement, some stm, some (wk, wq, bk, bq), some ep, some half, some full =>
      some { placement := placement, stm := stm, castleK := wk, castleQ := wq, castlek := bk, castleq := bq,
             ep := ep, half := half, full := full }
    | _, _, _, _, _, _ => none
  | _ => none

/-! ### sanity checks of the specification itself -/

private def ok (s : String) : Bool := (read s.toList).isSome

-- accepted
example : ok "rnbqkbnr/pppppppp/8/8/8/8/PPPPPPPP/RNBQKBNR w KQkq - 0 1" = true := by decide +kernel
example : ok "rnbqkbnr/pp1ppppp/8/2p5/4P3/5N2/PPPP1PPP/RNBQKB1R b Kq c6 10 102" = true := by decide +kernel
example : ok "8/8/8/8/8/8/8/8 w - - 0 0" = true := by decide +kernel
-- the meaning: a1 = index 0, h8 = index 63, e3 = index 20
example : ((read "7k/8/8/8/8/8/8/R7 b Qk e3 12 34".toList).map fun r =>
    (r.placement 0, r.placement 63, r.placement 7, r.stm, r.castleK, r.castleQ, r.castlek, r.castleq, r.ep, r.half, r.full)) =
    some (some ⟨.rook, .white⟩, some ⟨.king, .black⟩, none, .black, false, true, true, false, some 20, 12, 34) := by
  rfl
-- rejected: adjacent digits, short / long rank, seven / nine ranks, bad letters
example : ok "rnbqkbnr/pppppppp/44/8/8/8/PPPPPPPP/RNBQKBNR w KQkq - 0 1" = false := by decide +kernel
example : ok "rnbqkbnr/pppppppp/7/8/8/8/PPPPPPPP/RNBQKBNR w KQkq - 0 1" = false := by decide +kernel
example : ok "rnbqkbnr/pppppppp/8p/8/8/8/PPPPPPPP/RNBQKBNR w KQkq - 0 1" = false := by decide +kernel
example : ok "rnbqkbnr/pppppppp/8/8/8/PPPPPPPP/RNBQKBNR w KQkq - 0 1" = false := by decide +kernel
example : ok "rnbqkbnr/pppppppp/8/8/8/8/8/PPPPPPPP/RNBQKBNR w KQkq - 0 1" = false := by decide +kernel
example : ok "rnbqkbnr/pppppppp/9/8/8/8/PPPPPPPP/RNBQKBNR w KQkq - 0 1" = false := by decide +kernel
example : ok "rnbqkbnr/pppppppp/0/8/8/8/PPPPPPPP/RNBQKBNR w KQkq - 0 1" = false := by decide +kernel
example : ok "rnbqkbnr/pppxpppp/8/8/8/8/PPPPPPPP/RNBQKBNR w KQkq - 0 1" = false := by decide +kernel
-- rejected: side, castling order / repetition / emptiness, en-passant square, numbers, spacing, field count
example : ok "8/8/8/8/8/8/8/8 W - - 0 1" = false := by decide +kernel
example : ok "8/8/8/8/8/8/8/8 w kqKQ - 0 1" = false := by decide +kernel
example : ok "8/8/8/8/8/8/8/8 w KK - 0 1" = false := by decide +kernel
example : ok "8/8/8/8/8/8/8/8 w  - 0 1" = false := by decide +kernel
example : ok "8/8/8/8/8/8/8/8 w K- - 0 1" = false := by decide +kernel
example : ok "8/8/8/8/8/8/8/8 w - 3e 0 1" = false := by decide +kernel
example : ok "8/8/8/8/8/8/8/8 w - e9 0 1" = false := by decide +kernel
example : ok "8/8/8/8/8/8/8/8 w - E3 0 1" = false := by decide +kernel
example : ok "8/8/8/8/8/8/8/8 w - - 00 1" = false := by decide +kernel
example : ok "8/8/8/8/8/8/8/8 w - - 0 01" = false := by decide +kernel
example : ok "8/8/8/8/8/8/8/8 w - - +0 1" = false := by decide +kernel
example : ok "8/8/8/8/8/8/8/8 w - -  1" = false := by decide +kernel
example : ok "8/8/8/8/8/8/8/8 w - - 0" = false := by decide +kernel
example : ok "8/8/8/8/8/8/8/8 w - - 0 1 " = false := by decide +kernel
example : ok " 8/8/8/8/8/8/8/8 w - - 0 1" = false := by decide +kernel
example : ok "8/8/8/8/8/8/8/8  w - - 0 1" = false := by decide +kernel

end Chess.FenSpec

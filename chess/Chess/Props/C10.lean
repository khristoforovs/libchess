import Chess.Props.C16
/-! # C10 — the text functions: what there is to say beyond totality

The model's text functions return `Except`, so they cannot panic by construction.  What remains to be said is
(a) every accepted coordinate-move text re-prints to a canonical text that parses back to the same move,
(b) the branch marked "unreachable" in `parseSquare` (Rust: `chars[1]` would panic) is unreachable,
(c) the counters of an accepted FEN fit `usize`. -/
namespace Chess.C10
open Chess

/-- `PieceMove::new` rejects a promotion to pawn, so the parser never returns one -/
theorem parsePieceMove_promo_ne_pawn (s : Str) (m : Move) (h : parsePieceMove s = .ok m) :
    ∀ pt a d, m ≠ .piece pt a d (some .pawn) := by
  intro pt a d hm
  subst hm
  unfold parsePieceMove at h
  simp only [] at h
  -- down the parser to its one `.ok` leaf, which sits in the `else` of `if promo == some .pawn`
  split at h            -- fewer than 4 bytes
  · cases h
  split at h            -- piece letter
  · cases h
  split at h            -- source square
  · split at h          -- destination square
    · split at h        -- promotion letter
      · cases h
      · split at h      -- `PieceMove::new`
        · cases h
        · rename_i promo hp hne
          injection h with h
          injection h with _ _ _ h4
          subst h4
          exact hne rfl
    · cases h
  · cases h

theorem parseMove_promo_ne_pawn (s : Str) (m : Move) (h : parseMove s = .ok m) :
    ∀ pt a d, m ≠ .piece pt a d (some .pawn) := by
  unfold parseMove at h
  split at h
  · cases h; intro _ _ _ hm; cases hm
  split at h
  · cases h; intro _ _ _ hm; cases hm
  exact parsePieceMove_promo_ne_pawn s m h

/-- **C10 (canonical form).**  Every accepted coordinate-move text re-prints to a text that parses back to the same move. -/
theorem C10_canon (s : Str) (m : Move) (h : parseMove s = .ok m) : parseMove (printMove m) = .ok m :=
  C16.roundtrip m (parseMove_promo_ne_pawn s m h)

theorem C10_canon_idem (s : Str) (m : Move) (h : parseMove s = .ok m) :
    (parseMove (printMove m)).map printMove = .ok (printMove m) := by
  rw [C10_canon s m h]; rfl

example : parseMove "pe2e4".toList = .ok (.piece .pawn 12 28 none) ∧ printMove (.piece .pawn 12 28 none) = "e2e4".toList := by decide

/-- a single character of 2 bytes is never a file letter, so `parseSquare` fails at `File::from_str`
before it could index the missing second character -/
theorem parseSquare_branch_unreachable (c0 : Char) (h2 : byteLen [c0] = 2) : ∃ e, parseFile [c0] = .error e := by
  refine ⟨.invalidFile, ?_⟩
  unfold parseFile
  rw [h2]; rfl

/-- whenever `parseSquare` gets past the length test and the file test, a second character exists -/
theorem parseSquare_second_char (s : Str) (c0 : Char) (rest : Str) (hs : s = c0 :: rest) (hl : byteLen s = 2)
    (f : Fin 8) (hf : parseFile [c0] = .ok f) : rest ≠ [] := by
  intro hr
  subst hr; subst hs
  obtain ⟨e, he⟩ := parseSquare_branch_unreachable c0 hl
  rw [he] at hf; cases hf

/-- the other `[] => .error` branch is also dead: an empty text has byte length 0 ≠ 2 -/
theorem parseSquare_nil_branch_unreachable : byteLen [] ≠ 2 := by decide

theorem parseUsize_lt (s : Str) (v : Nat) (h : parseUsize s = some v) : v < 2 ^ 64 := by
  unfold parseUsize at h
  simp only [] at h
  -- the one `some` leaf is guarded by `v < 2 ^ 64`; every other leaf is `none`
  repeat' split at h
  all_goals first | (cases h; done) | (injection h with h; subst h; assumption)

/-- **C10 (FEN counters).**  The half-move clock and move number of an accepted FEN are `usize` values. -/
theorem parseFen_fields (s : Str) (bb : Builder) (h : parseFen s = .ok bb) : bb.half < 2 ^ 64 ∧ bb.full < 2 ^ 64 := by
  unfold parseFen at h
  simp only [] at h
  -- the one `.ok` leaf is reached with both counters returned by `parseUsize`; every other leaf is an error
  repeat' split at h
  all_goals first
    | (cases h; done)
    | (injection h with h; subst h
       exact ⟨by apply parseUsize_lt; assumption, by apply parseUsize_lt; assumption⟩)

example : (parseFen "8/8/8/8/8/8/8/8 w - - 0 1".toList).isOk = true := by decide

end Chess.C10

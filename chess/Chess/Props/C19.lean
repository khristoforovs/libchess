import Chess.Lemmas.Flip
/-! # C19: the rules are invariant under the rank mirror with colour swap, and (without castling rights)
under the file mirror.  A theorem about the declarative specification `Chess/Spec/Rules.lean` only. -/
namespace Chess
open Spec

def flipPiece : Piece → Piece := fun ⟨t, c⟩ => ⟨t, c.other⟩

def flipV (p : Pos) : Pos :=
  { board := fun s => (p.board (flipSq s)).map flipPiece, stm := p.stm.other,
    rights := fun c => p.rights c.other, ep := p.ep.map flipSq, half := p.half, full := p.full }
def flipVm : Move → Move
  | .piece pt src dst promo => .piece pt (flipSq src) (flipSq dst) promo
  | .castle s => .castle s

/-- file mirror of a position (colours and rights unchanged; meaningful when there are no castling rights) -/
def flipH (p : Pos) : Pos :=
  { board := fun s => p.board (mirSq s), stm := p.stm, rights := p.rights, ep := p.ep.map mirSq,
    half := p.half, full := p.full }
def flipHm : Move → Move
  | .piece pt src dst promo => .piece pt (mirSq src) (mirSq dst) promo
  | .castle s => .castle s

def flipStatus : Status → Status
  | .checkmated c => .checkmated c.other
  | s => s

theorem symV_σ : symV.σ = flipSq := rfl
theorem symV_κ : symV.κ = Color.other := rfl
theorem symH_σ : symH.σ = mirSq := rfl
theorem symH_κ (c : Color) : symH.κ c = c := rfl

theorem flipV_eq (p : Pos) : flipV p = symV.pos p := rfl
theorem flipVm_eq (m : Move) : flipVm m = symV.mv m := by cases m <;> rfl
theorem flipH_eq (p : Pos) : flipH p = symH.pos p := by
  apply Pos.ext' <;> try rfl
  funext s
  show p.board (mirSq s) = (p.board (mirSq s)).map (mapPiece id)
  cases p.board (mirSq s) <;> rfl
theorem flipHm_eq (m : Move) : flipHm m = symH.mv m := by cases m <;> rfl
theorem flipStatus_eq (s : Status) : flipStatus s = symV.mapStatus s := by cases s <;> rfl
theorem mapStatus_symH (s : Status) : symH.mapStatus s = s := by cases s <;> rfl

theorem flipV_flipV (p : Pos) : flipV (flipV p) = p := by simp only [flipV_eq, symV.pos_pos]
theorem flipVm_flipVm (m : Move) : flipVm (flipVm m) = m := by simp only [flipVm_eq, symV.mv_mv]
theorem flipH_flipH (p : Pos) : flipH (flipH p) = p := by simp only [flipH_eq, symH.pos_pos]
theorem flipHm_flipHm (m : Move) : flipHm (flipHm m) = m := by simp only [flipHm_eq, symH.mv_mv]

/-! ## geometry (the facts packaged in `symV`, `symH`, restated) -/
theorem C19_flipSq_flipSq (s : Sq) : flipSq (flipSq s) = s := flipSq_flipSq s
theorem C19_flipSq_rank (s : Sq) : (flipSq s).rank = 7 - s.rank := flipSq_rank s
theorem C19_flipSq_file (s : Sq) : (flipSq s).file = s.file := flipSq_file s
theorem C19_strictlyBetween (a c b : Sq) :
    strictlyBetween (flipSq a) (flipSq c) (flipSq b) = strictlyBetween a c b := strictlyBetween_flipSq a c b
theorem C19_orthogonal (a b : Sq) : orthogonal (flipSq a) (flipSq b) = orthogonal a b := symV.orth a b
theorem C19_diagonal (a b : Sq) : diagonal (flipSq a) (flipSq b) = diagonal a b := symV.diag a b
theorem C19_mirror_strictlyBetween (a c b : Sq) :
    strictlyBetween (mirSq a) (mirSq c) (mirSq b) = strictlyBetween a c b := strictlyBetween_mirSq a c b
theorem C19_mirror_orthogonal (a b : Sq) : orthogonal (mirSq a) (mirSq b) = orthogonal a b := symH.orth a b
theorem C19_mirror_diagonal (a b : Sq) : diagonal (mirSq a) (mirSq b) = diagonal a b := symH.diag a b
theorem C19_fwd (c : Color) : fwd c.other = - fwd c := fwd_other c

theorem C19_attacks (p : Pos) (a t : Sq) : attacks (flipV p).board (flipSq a) (flipSq t) = attacks p.board a t :=
  symV.attacks_sym p.board a t
theorem C19_clearBetween (p : Pos) (a t : Sq) :
    clearBetween (flipV p).board (flipSq a) (flipSq t) = clearBetween p.board a t :=
  symV.clearBetween_sym p.board a t
theorem C19_attackedBy (p : Pos) (c : Color) (t : Sq) :
    attackedBy (flipV p).board c.other (flipSq t) = attackedBy p.board c t :=
  symV.attackedBy_sym p.board c t

/-- `kingSq?` picks the first king in index order, so the mirror image commutes with it only when the king of
that colour is unique (`KingUniq`); with two kings of one colour the statement is false. -/
theorem C19_kingSq? (p : Pos) (c : Color) (hu : Sym.KingUniq p.board c) :
    kingSq? (flipV p).board c.other = (kingSq? p.board c).map flipSq := symV.kingSq?_sym hu
theorem C19_inCheck (p : Pos) (c : Color) (hu : Sym.KingUniq p.board c) :
    inCheck (flipV p).board c.other = inCheck p.board c := symV.inCheck_sym hu

theorem hsq_flipV (c : Color) (f : Nat) (hf : f < 8 := by decide) : hsqS (symV.κ c) f = symV.σ (hsqS c f) :=
  sq_ext (by rw [symV_σ, flipSq_rank, hsq_rank _ _ hf, hsq_rank _ _ hf]; cases c <;> rfl)
    (by rw [symV_σ, flipSq_file, hsq_file _ _ hf, hsq_file _ _ hf])

theorem applyBoard_castle_flipV (p : Pos) (s : Side) :
    applyBoard (symV.pos p) (.castle s) = symV.bd (applyBoard p (.castle s)) := by
  rw [applyBoard_castle, applyBoard_castle]
  -- both sides become the same four `upd`s at the mirrored home squares; `rfl` computes `mapPiece` of the values written
  cases s <;>
    simp only [castled, rookFrom, kingTo, rookTo, Sym.upd_sym, Sym.pos, hsq_flipV _ 4, hsq_flipV _ 7, hsq_flipV _ 6,
      hsq_flipV _ 5, hsq_flipV _ 0, hsq_flipV _ 2, hsq_flipV _ 3] <;>
    rfl

theorem applyBoard_castle_uniq {p : Pos} (hu : Sym.KingUniq p.board p.stm)
    (hk : p.board (hsqS p.stm 4) = some ⟨.king, p.stm⟩) (s : Side) :
    Sym.KingUniq (applyBoard p (.castle s)) p.stm := fun a b ha hb =>
  have h := own_king_castle s hk fun _ hx => hu _ _ hx hk
  ((h a).1 ha).trans ((h b).1 hb).symm

theorem castleOk_flipV (p : Pos) (hu : Sym.KingUniq p.board p.stm) (s : Side) :
    castleOk (symV.pos p) s = castleOk p s := by
  -- every home square of the other colour is the mirror image of the same file's (`hsq_flipV`), so each conjunct is a law of
  -- `symV`; the last one, check after castling, needs the king to be unique there, which holds once it stands on the e-file
  rw [castleOk_eq, castleOk_eq, applyBoard_castle_flipV]
  have hr : (symV.pos p).rights (symV.κ p.stm) = p.rights p.stm := by simp [Sym.pos, symV.κκ]
  cases s <;>
    simp only [pathFiles, rookFrom, rookTo, List.all_cons, List.all_nil, show (symV.pos p).stm = symV.κ p.stm from rfl,
      show (symV.pos p).board = symV.bd p.board from rfl, hr, hsq_flipV _ 0, hsq_flipV _ 1, hsq_flipV _ 2, hsq_flipV _ 3,
      hsq_flipV _ 4, hsq_flipV _ 5, hsq_flipV _ 6, hsq_flipV _ 7, Sym.bd_σ, Option.isNone_map, Sym.map_beq_some,
      symV.inCheck_sym hu, ← symV.κ_other, symV.attackedBy_sym]
  -- the two sides now agree but for the last conjunct, `inCheck` after castling
  all_goals
    cases hk : (p.board (hsqS p.stm 4) == some ⟨.king, p.stm⟩) with
    | false => simp
    | true => rw [symV.inCheck_sym (applyBoard_castle_uniq hu (by simpa using hk) _)]

theorem validPos_kingUniq {p : Pos} (hv : ValidPos p = true) (c : Color) : Sym.KingUniq p.board c :=
  Sym.kingUniq_of_one (validPos_king hv c)

/-- Legality is invariant under the rank mirror.  Hypothesis needed: at most one king of the side to move
(as for `C19_kingSq?`; counterexample `exTwoKings`). -/
theorem C19_legal (p : Pos) (hk : Sym.KingUniq p.board p.stm) (m : Move) :
    legal (flipV p) (flipVm m) = legal p m := by
  rw [flipV_eq, flipVm_eq]
  cases m with
  | piece pt src dst promo => exact symV.legal_piece_sym p hk pt src dst promo
  | castle s => exact castleOk_flipV p hk s

theorem C19_legal_valid (p : Pos) (hv : ValidPos p = true) (m : Move) :
    legal (flipV p) (flipVm m) = legal p m := C19_legal p (validPos_kingUniq hv _) m

/-- as sets, the legal moves of the mirror image are the mirror images of the legal moves (nothing is said about their order
in the list) -/
theorem C19_legalMoves (p : Pos) (hk : Sym.KingUniq p.board p.stm) (m : Move) :
    flipVm m ∈ legalMoves (flipV p) ↔ m ∈ legalMoves p := by
  rw [mem_legalMoves_iff, mem_legalMoves_iff, C19_legal p hk]

theorem C19_applyBoard (p : Pos) (m : Move) :
    applyBoard (flipV p) (flipVm m) = fun s => (applyBoard p m (flipSq s)).map flipPiece := by
  rw [flipV_eq, flipVm_eq]
  show _ = symV.bd (applyBoard p m)
  cases m with
  | piece pt src dst promo => exact symV.applyBoard_piece_sym p pt src dst promo
  | castle s => exact applyBoard_castle_flipV p s

/-- Successor positions: every field commutes with the mirror except the full-move counter, which counts Black's
moves and therefore cannot commute with a colour swap; the exact value is given.  No hypothesis on `p` or `m`. -/
theorem C19_apply (p : Pos) (m : Move) :
    apply (flipV p) (flipVm m) =
      { flipV (apply p m) with full := if p.stm = .white then p.full + 1 else p.full } := by
  have hb := C19_applyBoard p m
  rw [flipV_eq, flipVm_eq] at hb ⊢
  rw [flipV_eq, symV.apply_sym p m hb fun c s => by rw [hsq_flipV _ 7, hsq_flipV _ 0, symV.σ_beq, symV.σ_beq]]
  cases p.stm <;> rfl

theorem C19_apply_upToFull (p : Pos) (m : Move) (n : Nat) :
    { apply (flipV p) (flipVm m) with full := n } = { flipV (apply p m) with full := n } := by
  rw [C19_apply]

theorem C19_checkers (p : Pos) (hk : Sym.KingUniq p.board p.stm) (x : Sq) :
    flipSq x ∈ checkers (flipV p) ↔ x ∈ checkers p := symV.mem_checkers_sym p hk x
theorem C19_pinned (p : Pos) (hk : Sym.KingUniq p.board p.stm) (x : Sq) :
    flipSq x ∈ pinnedSet (flipV p) ↔ x ∈ pinnedSet p := symV.mem_pinnedSet_sym p hk x

theorem C19_status (p : Pos) (hk : Sym.KingUniq p.board p.stm) :
    status (flipV p) = flipStatus (status p) := by
  rw [flipV_eq, flipStatus_eq]
  apply symV.status_sym p hk
  intro m
  have := C19_legal p hk m
  rwa [flipV_eq, flipVm_eq] at this

theorem castleOk_noRights (p : Pos) (hr : p.rights p.stm = ⟨false, false⟩) (s : Side) : castleOk p s = false := by
  rw [castleOk_eq, hr]; cases s <;> simp [Rights.has]

theorem C19_mirror_legal_piece (p : Pos) (hk : Sym.KingUniq p.board p.stm) (pt : PT) (src dst : Sq) (promo : Option PT) :
    legal (flipH p) (.piece pt (mirSq src) (mirSq dst) promo) = legal p (.piece pt src dst promo) := by
  rw [flipH_eq]; exact symH.legal_piece_sym p hk pt src dst promo

theorem C19_mirror_legal (p : Pos) (hk : Sym.KingUniq p.board p.stm) (hr : ∀ c, p.rights c = ⟨false, false⟩) (m : Move) :
    legal (flipH p) (flipHm m) = legal p m := by
  cases m with
  | piece pt src dst promo => exact C19_mirror_legal_piece p hk pt src dst promo
  | castle s =>
    show castleOk (flipH p) s = castleOk p s
    rw [castleOk_noRights p (hr _), castleOk_noRights (flipH p) (hr _)]

theorem C19_mirror_legalMoves (p : Pos) (hk : Sym.KingUniq p.board p.stm) (hr : ∀ c, p.rights c = ⟨false, false⟩) (m : Move) :
    flipHm m ∈ legalMoves (flipH p) ↔ m ∈ legalMoves p := by
  rw [mem_legalMoves_iff, mem_legalMoves_iff, C19_mirror_legal p hk hr]

/-- Successor positions under the file mirror, for piece moves (castling moves are never legal without rights, and
`apply` of a castling move is NOT mirror-symmetric: the king lands on the g/c file on both sides). -/
theorem C19_mirror_apply (p : Pos) (hr : ∀ c, p.rights c = ⟨false, false⟩) (pt : PT) (src dst : Sq) (promo : Option PT) :
    apply (flipH p) (flipHm (.piece pt src dst promo)) = flipH (apply p (.piece pt src dst promo)) := by
  rw [flipH_eq, flipHm_eq, flipH_eq]
  exact symH.apply_sym p _ (symH.applyBoard_piece_sym p pt src dst promo) fun c s => by rw [hr c]; rfl

theorem C19_mirror_apply_legal (p : Pos) (hr : ∀ c, p.rights c = ⟨false, false⟩) (m : Move) (hm : legal p m = true) :
    apply (flipH p) (flipHm m) = flipH (apply p m) := by
  cases m with
  | piece pt src dst promo => exact C19_mirror_apply p hr pt src dst promo
  | castle s =>
    have : castleOk p s = false := castleOk_noRights p (hr _) s
    rw [show legal p (.castle s) = castleOk p s from rfl, this] at hm
    cases hm

theorem noRights_apply (p : Pos) (hr : ∀ c, p.rights c = ⟨false, false⟩) (m : Move) :
    ∀ c, (apply p m).rights c = ⟨false, false⟩ := by
  intro c
  rw [apply_eq]
  dsimp only
  rw [hr, hr]
  -- `ownRights` (for `c` the mover) and `oppRights` of `⟨false, false⟩` can only drop rights
  split
  · rcases m with ⟨pt, _, _, _⟩ | _
    · cases pt <;> rfl
    · rfl
  · cases m <;> rfl

theorem C19_mirror_checkers (p : Pos) (hk : Sym.KingUniq p.board p.stm) (x : Sq) :
    mirSq x ∈ checkers (flipH p) ↔ x ∈ checkers p := by
  rw [flipH_eq]; exact symH.mem_checkers_sym p hk x
theorem C19_mirror_pinned (p : Pos) (hk : Sym.KingUniq p.board p.stm) (x : Sq) :
    mirSq x ∈ pinnedSet (flipH p) ↔ x ∈ pinnedSet p := by
  rw [flipH_eq]; exact symH.mem_pinnedSet_sym p hk x

theorem C19_mirror_status (p : Pos) (hk : Sym.KingUniq p.board p.stm) (hr : ∀ c, p.rights c = ⟨false, false⟩) :
    status (flipH p) = status p := by
  rw [flipH_eq, ← mapStatus_symH (status p)]
  apply symH.status_sym p hk
  intro m
  have := C19_mirror_legal p hk hr m
  rwa [flipH_eq, flipHm_eq] at this

theorem rightsOk_flipV (p : Pos) (c : Color) : rightsOk (symV.pos p) (symV.κ c) = rightsOk p c := by
  have hr : (symV.pos p).rights (symV.κ c) = p.rights c := by simp [Sym.pos, symV.κκ]
  rw [Bool.eq_iff_iff, rightsOk_iff, rightsOk_iff, hr]
  simp only [show (symV.pos p).board = symV.bd p.board from rfl, hsq_flipV _ 4, hsq_flipV _ 7, hsq_flipV _ 0, Sym.bd_eq_some_iff,
    symV.σσ]

theorem rightsOk_noRights (p : Pos) (c : Color) (hr : p.rights c = ⟨false, false⟩) : rightsOk p c = true := by
  rw [rightsOk_iff, hr]
  simp

theorem symV_epRank (s : Sq) (c : Color) :
    ((symV.σ s).rank == (if symV.κ c == .white then 5 else 2)) = (s.rank == (if c == .white then 5 else 2)) := by
  rw [symV_σ, flipSq_rank, Bool.eq_iff_iff]
  cases c <;> simp [symV, Color.other] <;> omega
theorem symH_epRank (s : Sq) (c : Color) :
    ((symH.σ s).rank == (if symH.κ c == .white then 5 else 2)) = (s.rank == (if c == .white then 5 else 2)) := by
  rw [symH_σ, mirSq_rank]; rfl

theorem C19_validPos (p : Pos) : ValidPos (flipV p) = ValidPos p :=
  symV.validPos_sym p symV_epRank (rightsOk_flipV p)

theorem C19_mirror_validPos (p : Pos) (hr : ∀ c, p.rights c = ⟨false, false⟩) : ValidPos (flipH p) = ValidPos p := by
  rw [flipH_eq]
  exact symH.validPos_sym p symH_epRank fun c =>
    (rightsOk_noRights (symH.pos p) c (hr c)).trans (rightsOk_noRights p c (hr c)).symm

/-- two bare kings: the hypotheses of all C19 theorems (valid, unique kings, no rights) are satisfiable -/
def exPosF : Pos :=
  { board := fun s => if s = 4 then some ⟨.king, .white⟩ else if s = 60 then some ⟨.king, .black⟩ else none,
    stm := .white, rights := fun _ => ⟨false, false⟩, ep := none, half := 0, full := 1 }
example : ValidPos exPosF = true ∧ (∀ c, exPosF.rights c = ⟨false, false⟩) := ⟨by decide +kernel, fun _ => rfl⟩

/-- Why `KingUniq` is needed: White kings on a1 and a8, a black rook on h1.  `inCheck` looks at the first king in index
order (a1, attacked); in the mirror image the first king is the image of a8 (not attacked). -/
def exTwoKings : Pos :=
  { board := fun s => if s = 0 then some ⟨.king, .white⟩ else if s = 56 then some ⟨.king, .white⟩
      else if s = 7 then some ⟨.rook, .black⟩ else none,
    stm := .white, rights := fun _ => ⟨false, false⟩, ep := none, half := 0, full := 1 }
example : inCheck exTwoKings.board .white = true ∧ inCheck (flipV exTwoKings).board .black = false := by
  decide +kernel

end Chess

import Chess.Lemmas.PgnRegex
import Chess.Props.C10Game
import Chess.Props.C13Rules
/-! # C15 — soundness of the PGN importer on ARBITRARY text

`C15_roundtrip_regex` is about the library's own exports.  This file is about `Game::from_pgn` (`Game.ofPgnRegex`) on EVERY
text `pgn : Str`: whenever the import succeeds, the game returned is a game of chess played by the rules whose move record, read
in standard algebraic notation, is exactly the list of move tokens the text holds.

The import succeeds exactly when the text has a second section, the replay loop plays all its move tokens (a `TokenPlay`,
C15.lean) and the tail is applied (`ofPgnRegex_ok_iff`; `ImportTail` is the tail `Game.tail` with the accepted actions spelt
out).  The result pattern reports one of its three words or nothing, so the fourth branch of the tail is dead.  What is said of
the imported game comes at two levels.  The model's: `History.PlyOf` — the recorded move is a generated legal move, the recorded
notation properties are its own, and the token IS the text printed for it.  The rules': `History.RulePly` by index and `SanLine`
without indices — the move is rule-legal, the token is its standard SAN (`Spec.san`) and no other rule-legal move has it, the
next position is the rule-level successor.  Theorems come in the general form (any start game, hypotheses `GameOK K start` /
`boardStatus` only where needed) and for the standard initial position (`Board.ofBuilder K stdBuilder = .ok b0`, the
formulation of `C10_ofPgn_no_panic`).  Nothing is assumed. -/
namespace Chess
open Chess.Game Chess.C13 Chess.PgnRegex Board

variable {K : Keys}

theorem PlayedFrom.trans {g0 g g' : Game} (h1 : PlayedFrom K g0 g) (h2 : PlayedFrom K g g') : PlayedFrom K g0 g' := by
  induction h2 with
  | init => exact h1
  | step a _ ha ih => exact .step a ih ha

theorem playMoves_playedFrom {g g₁ : Game} {ms : List Move} (h : Game.playMoves K g ms = .ok g₁) : PlayedFrom K g g₁ := by
  induction ms generalizing g with
  | nil => cases h; exact .init
  | cons m ms ih =>
    obtain ⟨g', ha, h1⟩ := playMoves_cons_ok K h
    exact PlayedFrom.trans (.step _ .init ha) (ih h1)

theorem TokenPlay.constructible {g g₁ : Game} {toks : List Str} {ms : List Move} (h : TokenPlay K g toks ms g₁) :
    ∀ m ∈ ms, ∀ pt s d, m ≠ .piece pt s d (some .pawn) := fun m hm =>
  let ⟨b, hb⟩ := h.generated m hm
  mem_getLegalMoves_constructible K b m hb

theorem TokenPlay.ok {g g₁ : Game} {toks : List Str} {ms : List Move} (h : TokenPlay K g toks ms g₁)
    (hok : GameOK K g) : GameOK K g₁ :=
  replaySan_ok_inv K _ _ _ hok (h.replay_valid hok.position_valid).1

theorem TokenPlay.split {g g₁ : Game} (pre : List Str) {tok : Str} {rest : List Str} {ms : List Move}
    (h : TokenPlay K g (pre ++ tok :: rest) ms g₁) :
    ∃ ms₁ ms₂ g', ms = ms₁ ++ ms₂ ∧ TokenPlay K g pre ms₁ g' ∧ TokenPlay K g' (tok :: rest) ms₂ g₁ ∧
      g'.status = .ongoing := by
  induction pre generalizing g ms with
  | nil =>
    refine ⟨[], ms, g, rfl, .nil g, h, ?_⟩
    cases h with
    | cons mp _ _ _ ha _ => exact (act_move_ok K ha).1
  | cons t pre ih =>
    cases h with
    | cons mp hm hp ht ha hrest =>
      obtain ⟨ms₁, ms₂, g'', e, h1, h2, hs⟩ := ih hrest
      exact ⟨_ :: ms₁, ms₂, g'', by rw [e]; rfl, .cons mp hm hp ht ha h1, h2, hs⟩

variable (K)

theorem TokenPlay.replay {g g₁ : Game} {toks : List Str} {ms : List Move} (h : TokenPlay K g toks ms g₁)
    (hok : GameOK K g) : replaySan K g toks = .ok g₁ :=
  (h.replay_valid hok.position_valid).1

theorem replaySan_ok_iff (g g₁ : Game) (hok : GameOK K g) (toks : List Str) :
    replaySan K g toks = .ok g₁ ↔ ∃ ms, TokenPlay K g toks ms g₁ :=
  ⟨replaySan_tokenPlay K toks g g₁, fun ⟨_, h⟩ => h.replay K hok⟩

theorem TokenPlay.unique {g g₁ g₁' : Game} {toks : List Str} {ms ms' : List Move} (hok : GameOK K g)
    (h : TokenPlay K g toks ms g₁) (h' : TokenPlay K g toks ms' g₁') : ms = ms' ∧ g₁ = g₁' := by
  have e : g₁ = g₁' := by
    have := (h.replay K hok).symm.trans (h'.replay K hok)
    exact Except.ok.inj this
  subst e
  obtain ⟨_, _, _, _, _, e2, _, _⟩ := h.history
  obtain ⟨_, _, _, _, _, e2', _, _⟩ := h'.history
  exact ⟨List.append_cancel_left (e2.symm.trans e2'), rfl⟩

/-- After the game is finished the next token makes the loop fail, whatever the rest of the text: with `InvalidPGNString` when
no legal move of the final position prints to the token (always so after mate and stalemate: there is no legal move), with
`GameIsAlreadyFinished` otherwise (`make_move` refuses).  The loop never stops early with `Ok`. -/
theorem C15_import_finished_stops (g : Game) (hf : C12.finished g.status = true) (tok : Str) (rest : List Str) :
    replaySan K g (tok :: rest) =
      .error (match (sanCands K g tok).getLast? with | none => .invalidPgn | some _ => .gameFinished) := by
  rw [replaySan_cons]
  cases (sanCands K g tok).getLast? with
  | none => rfl
  | some m => simp only [C12.finished_rejects K g _ hf]

theorem replaySan_append (pre suf : List Str) : ∀ g : Game,
    replaySan K g (pre ++ suf) =
      match replaySan K g pre with
      | .error e => .error e
      | .ok g' => replaySan K g' suf := by
  induction pre with
  | nil => intro g; rfl
  | cons t pre ih =>
    intro g
    rw [List.cons_append, replaySan_cons, replaySan_cons]
    cases (sanCands K g t).getLast? with
    | none => rfl
    | some m =>
      simp only
      cases g.act K (.move m) with
      | error e => rfl
      | ok g2 => exact ih g2

/-- what the tail of `from_pgn` does to the replayed game `g₁`, given the first match `res` of the result pattern in the moves
section -/
inductive ImportTail (g₁ : Game) : Option Str → Game → Prop
  | finished (res : Option Str) : g₁.status ≠ .ongoing → ImportTail g₁ res g₁
  | noResult : g₁.status = .ongoing → ImportTail g₁ none g₁
  | whiteWins (g : Game) : g₁.status = .ongoing → g₁.act K (.resign .black) = .ok g → ImportTail g₁ (some "1-0".toList) g
  | blackWins (g : Game) : g₁.status = .ongoing → g₁.act K (.resign .white) = .ok g → ImportTail g₁ (some "0-1".toList) g
  | drawn (g₂ g : Game) : g₁.status = .ongoing → g₁.act K (.offerDraw .white) = .ok g₂ → g₂.act K .acceptDraw = .ok g →
      ImportTail g₁ (some "1/2-1/2".toList) g

variable {K}

theorem ImportTail.eq_tail {g₁ g : Game} {res : Option Str} (h : ImportTail K g₁ res g) : g = g₁.tail res := by
  cases h with
  | finished res hs => exact (tail_of_not_ongoing hs res).symm
  | noResult hs => exact (tail_none g₁).symm
  | whiteWins g hs ha =>
    rw [tail_whiteWins hs]
    exact (act_nonmove_ok K (by simp) ha).2
  | blackWins g hs ha =>
    rw [tail_blackWins hs]
    exact (act_nonmove_ok K (by simp) ha).2
  | drawn g₂ g hs ha ha2 =>
    rw [tail_drawn hs]
    obtain ⟨-, rfl⟩ := act_nonmove_ok K (by simp) ha
    exact (act_nonmove_ok K (by simp) ha2).2

theorem ImportTail.frame {g₁ g : Game} {res : Option Str} (h : ImportTail K g₁ res g) :
    g.position = g₁.position ∧ g.history = g₁.history ∧ g.counter = g₁.counter := by
  rw [h.eq_tail]
  exact tail_frame g₁ res

theorem ImportTail.ending {g₁ g : Game} {res : Option Str} (h : ImportTail K g₁ res g) : Ending K g₁ g := by
  cases h with
  | finished _ _ | noResult _ => exact .none
  | whiteWins g _ ha | blackWins g _ ha => exact .resign _ g ha
  | drawn g₂ g _ ha ha2 => exact .agreed _ g₂ g ha ha2

theorem ImportTail.playedFrom {g₁ g : Game} {res : Option Str} (h : ImportTail K g₁ res g) : PlayedFrom K g₁ g := by
  cases h with
  | finished _ _ | noResult _ => exact .init
  | whiteWins _ _ ha | blackWins _ _ ha => exact .step _ .init ha
  | drawn _ _ _ ha ha2 => exact .step _ (.step _ .init ha) ha2

theorem ImportTail.ok {g₁ g : Game} {res : Option Str} (h : ImportTail K g₁ res g) (hok : GameOK K g₁) : GameOK K g := by
  cases h with
  | finished _ _ | noResult _ => exact hok
  | whiteWins _ _ ha => exact .step (.resign .black) hok trivial ha
  | blackWins _ _ ha => exact .step (.resign .white) hok trivial ha
  | drawn _ _ _ ha ha2 => exact .step .acceptDraw (.step (.offerDraw .white) hok trivial ha) trivial ha2

theorem ImportTail.cases3 {g₁ g : Game} {res : Option Str} (h : ImportTail K g₁ res g) :
    g = g₁ ∨ (∃ c, g₁.act K (.resign c) = .ok g) ∨
      ∃ g₂, g₁.act K (.offerDraw .white) = .ok g₂ ∧ g₂.act K .acceptDraw = .ok g := by
  cases h with
  | finished _ _ | noResult _ => exact .inl rfl
  | whiteWins _ _ ha | blackWins _ _ ha => exact .inr (.inl ⟨_, ha⟩)
  | drawn g₂ _ _ ha ha2 => exact .inr (.inr ⟨g₂, ha, ha2⟩)

variable (K)

theorem importTail_tail (g₁ : Game) (res : Option Str)
    (hres : ∀ r, res = some r → r = "1-0".toList ∨ r = "0-1".toList ∨ r = "1/2-1/2".toList) :
    ImportTail K g₁ res (g₁.tail res) := by
  by_cases hs : g₁.status = .ongoing
  · cases res with
    | none => rw [tail_none]; exact .noResult hs
    | some r =>
      rcases hres r rfl with rfl | rfl | rfl
      · rw [tail_whiteWins hs]
        exact .whiteWins _ hs (act_accepted K (by rw [hs]; rfl))
      · rw [tail_blackWins hs]
        exact .blackWins _ hs (act_accepted K (by rw [hs]; rfl))
      · rw [tail_drawn hs]
        exact .drawn _ _ hs (act_accepted K (by rw [hs]; rfl)) (act_accepted K (by rw [updateStatus_status]; rfl))
  · rw [tail_of_not_ongoing hs]
    exact .finished res hs

theorem ofPgnRegex_eq_importOf (start : Game) (pgn : Str) :
    Game.ofPgnRegex K start pgn =
      match regexMovesSection pgn with
      | none => .error .invalidPgn
      | some sec => Game.importOf K start (findMoves sec) (findResult sec) := by
  cases h : regexMovesSection pgn with
  | none => exact ofPgnRegex_no_section K h
  | some sec => exact ofPgnRegex_of_section K h

theorem ofPgnRegex_ok_iff (start : Game) (pgn : Str) (g : Game) :
    Game.ofPgnRegex K start pgn = .ok g ↔
      ∃ sec g₁, regexMovesSection pgn = some sec ∧ replaySan K start (findMoves sec) = .ok g₁ ∧
        ImportTail K g₁ (findResult sec) g := by
  constructor
  · intro h
    cases hs : regexMovesSection pgn with
    | none => rw [ofPgnRegex_no_section K hs] at h; cases h
    | some sec =>
      rw [ofPgnRegex_of_section K hs, Game.importOf] at h
      cases hr : replaySan K start (findMoves sec) with
      | error e => rw [hr] at h; cases h
      | ok g₁ =>
        rw [hr] at h
        obtain rfl : g₁.tail (findResult sec) = g := Except.ok.inj h
        exact ⟨sec, g₁, rfl, hr, importTail_tail K g₁ _ (fun r hr => findResult_values sec r hr)⟩
  · rintro ⟨sec, g₁, hs, hr, ht⟩
    rw [ofPgnRegex_of_section K hs, Game.importOf, hr, ht.eq_tail]
    rfl

/-- ply `n` of the history `h` was played on the token `tok` -/
def History.PlyOf (h : History) (n : Nat) (tok : Str) : Prop :=
  ∃ p p' m mp, h.positions[n]? = some p ∧ h.positions[n + 1]? = some p' ∧ h.moves[n]? = some m ∧ h.props[n]? = some mp ∧
    m ∈ p.getLegalMoves K ∧ p.moveProps K m = .ok mp ∧ sanText m mp = tok ∧ p' = p.makeMoveUnchecked K m

/-- the same in rule terms -/
def History.RulePly (h : History) (n : Nat) (tok : Str) : Prop :=
  ∃ p p' m, h.positions[n]? = some p ∧ h.positions[n + 1]? = some p' ∧ h.moves[n]? = some m ∧
    Spec.legal p.absPos m = true ∧ p'.absPos = Spec.apply p.absPos m ∧ (Spec.san p.absPos m).toList = tok ∧
    ∀ m', Spec.legal p.absPos m' = true → (Spec.san p.absPos m').toList = tok → m' = m

theorem rule_step (b : Board) (hv : b.Valid K) {m : Move} {mp : MoveProps} (hm : m ∈ b.getLegalMoves K)
    (hmp : b.moveProps K m = .ok mp) :
    Spec.legal b.absPos m = true ∧ (b.makeMoveUnchecked K m).absPos = Spec.apply b.absPos m ∧
      (Spec.san b.absPos m).toList = sanText m mp ∧
      ∀ m', Spec.legal b.absPos m' = true → (Spec.san b.absPos m').toList = sanText m mp → m' = m := by
  have hl := (hv.mem_getLegalMoves_iff m).1 hm
  refine ⟨hl, (C02_successor K b hv m hl).1, (C14_refines_legal K b hv m mp hm hmp).symm, ?_⟩
  intro m' hl' ht'
  obtain ⟨q, hq, hsan'⟩ := C14_refines_all K b hv m' ((hv.mem_getLegalMoves_iff m').2 hl')
  exact C14_injective_valid K b hv m' m q mp hq hmp (by rw [hsan', ht'])

theorem History.PlyOf.rule {h : History} {n : Nat} {tok : Str} (hp : History.PlyOf K h n tok)
    (hv : ∀ q ∈ h.positions, q.Valid K) : History.RulePly h n tok := by
  obtain ⟨p, p', m, mp, e1, e2, e3, _, hm, hmp, ht, hp'⟩ := hp
  obtain ⟨hl, hsucc, hsan, hu⟩ := rule_step K p (hv p (List.mem_of_getElem? e1)) hm hmp
  subst ht
  exact ⟨p, p', m, e1, e2, e3, hl, by rw [hp']; exact hsucc, hsan, hu⟩

theorem History.PlyOf.unique {h : History} {n : Nat} {tok : Str} (hp : History.PlyOf K h n tok)
    (hv : ∀ q ∈ h.positions, q.Valid K) (p : Board) (m : Move) (e1 : h.positions[n]? = some p) (e3 : h.moves[n]? = some m)
    (m' : Move) (mp' : MoveProps) (hq : p.moveProps K m' = .ok mp') (ht' : sanText m' mp' = tok) : m' = m := by
  obtain ⟨p0, _, m0, mp, e1', _, e3', _, _, hmp, ht, _⟩ := hp
  rw [e1] at e1'; cases e1'
  rw [e3] at e3'; cases e3'
  exact C14_injective_valid K p (hv p (List.mem_of_getElem? e1)) m' m mp' mp hq hmp (by rw [ht', ht])

/-- `SanLine q toks ms qs`: read from the position `q` by the rules of chess and the standard notation, the token list `toks`
is the move list `ms`, leading through the positions `qs` -/
inductive SanLine : Spec.Pos → List Str → List Move → List Spec.Pos → Prop
  | nil (q : Spec.Pos) : SanLine q [] [] []
  | cons {q : Spec.Pos} {tok : Str} {toks : List Str} {m : Move} {ms : List Move} {qs : List Spec.Pos} :
      Spec.legal q m = true → (Spec.san q m).toList = tok →
      (∀ m', Spec.legal q m' = true → (Spec.san q m').toList = tok → m' = m) →
      SanLine (Spec.apply q m) toks ms qs → SanLine q (tok :: toks) (m :: ms) (Spec.apply q m :: qs)

theorem SanLine.unique {q : Spec.Pos} {toks : List Str} {ms ms' : List Move} {qs qs' : List Spec.Pos}
    (h : SanLine q toks ms qs) (h' : SanLine q toks ms' qs') : ms = ms' ∧ qs = qs' := by
  induction h generalizing ms' qs' with
  | nil q => cases h'; exact ⟨rfl, rfl⟩
  | cons hl ht hu _ ih =>
    cases h' with
    | cons hl' ht' _ hrest' =>
      have e := hu _ hl' ht'
      subst e
      obtain ⟨e1, e2⟩ := ih hrest'
      rw [e1, e2]; exact ⟨rfl, rfl⟩

theorem SanLine.length {q : Spec.Pos} {toks : List Str} {ms : List Move} {qs : List Spec.Pos} (h : SanLine q toks ms qs) :
    ms.length = toks.length ∧ qs.length = toks.length := by
  induction h with
  | nil q => exact ⟨rfl, rfl⟩
  | cons _ _ _ _ ih => simp [ih.1, ih.2]

variable {K}

theorem TokenPlay.plies {g g₁ : Game} {toks : List Str} {ms : List Move} (h : TokenPlay K g toks ms g₁)
    (hc : History.Chain K g.history g.position) :
    ∀ (i : Nat) (hi : i < toks.length), History.PlyOf K g₁.history (g.history.moves.length + i) toks[i] := by
  induction h with
  | nil g => intro i hi; cases hi
  | @cons g g' g₁ tok toks m ms mp hm hp ht ha hrest ih =>
    obtain ⟨-, hl, rfl⟩ := act_move_ok K ha
    obtain ⟨-, rfl⟩ := (Board.moveProps_ok_iff K).1 hp
    have hc' : History.Chain K (g.moved K m).history (g.moved K m).position := by
      simpa using hc.move K hl
    obtain ⟨ps, qs, l1, l2, e1, e2, e3, e4⟩ := hrest.history
    have hlen := hc.len_pos
    have hlen' := hc.len_props
    intro i hi
    -- token 0 is the move just made: its ply sits at the end of `g`'s chain and survives the appends of the rest;
    -- token `i + 1` is token `i` of the rest, played from `g.moved K m`, whose record is one longer
    cases i with
    | zero =>
      refine ⟨g.position, _, m, _, ?_, ?_, ?_, ?_, hm, hp, ht, rfl⟩
      · simpa [e1, List.getElem?_append, hlen] using (List.getElem?_eq_some_iff.1 hc.getElem?_last).2
      · simp [e1, hlen]
      · simp [e2]
      · simp [e3, hlen']
    | succ i =>
      simpa [Nat.add_assoc, Nat.add_comm 1 i] using ih hc' i (by simpa using hi)

theorem TokenPlay.sanLine {g g₁ : Game} {toks : List Str} {ms : List Move} (h : TokenPlay K g toks ms g₁)
    (hok : GameOK K g) :
    ∃ qs, g₁.history.positions = g.history.positions ++ qs ∧ SanLine g.position.absPos toks ms (qs.map Board.absPos) := by
  induction h with
  | nil g => exact ⟨[], by simp, .nil _⟩
  | @cons g g' g₁ tok toks m ms mp hm hp ht ha hrest ih =>
    obtain ⟨qs, e1, hline⟩ := ih (.step (.move m) hok (mem_getLegalMoves_constructible K _ _ hm) ha)
    obtain ⟨hl, hsucc, hsan, hu⟩ := rule_step K _ hok.position_valid hm hp
    obtain ⟨-, -, rfl⟩ := act_move_ok K ha
    subst ht
    refine ⟨g.position.makeMoveUnchecked K m :: qs, by rw [e1, moved_history]; simp, ?_⟩
    rw [moved_position, hsucc] at hline
    rw [List.map_cons, hsucc]
    exact .cons hl hsan hu hline

variable (K)

/-- **C15 (import, reachability) — any start game, EVERY text.**  If `from_pgn` returns `Ok(g)` then there is a move list `ms`
such that `Game::make_move` accepts the moves of `ms` one after the other from `start` (`Game.playMoves`), reaching `g₁`, and
`g` is `g₁` followed by at most the result actions of the tail: nothing, `Resign(c)`, or `OfferDraw(White)` then `AcceptDraw`
(also in the form `Ending` of C15).  So `g` is reachable from `start` by accepted actions (`PlayedFrom`). -/
theorem C15_import_reach (start : Game) (pgn : Str) (g : Game) (h : Game.ofPgnRegex K start pgn = .ok g) :
    ∃ ms g₁, Game.playMoves K start ms = .ok g₁ ∧
      (g = g₁ ∨ (∃ c, g₁.act K (.resign c) = .ok g) ∨
        ∃ g₂, g₁.act K (.offerDraw .white) = .ok g₂ ∧ g₂.act K .acceptDraw = .ok g) ∧
      Ending K g₁ g ∧ PlayedFrom K start g := by
  obtain ⟨sec, g₁, _, hr, ht⟩ := (ofPgnRegex_ok_iff K start pgn g).1 h
  obtain ⟨ms, hp⟩ := replaySan_tokenPlay K _ start g₁ hr
  exact ⟨ms, g₁, hp.playMoves, ht.cases3, ht.ending, (playMoves_playedFrom hp.playMoves).trans ht.playedFrom⟩

theorem C15_import_reach_ok (start : Game) (hok : GameOK K start) (pgn : Str) (g : Game)
    (h : Game.ofPgnRegex K start pgn = .ok g) : GameOK K g ∧ GameReach K g := by
  obtain ⟨sec, g₁, _, hr, ht⟩ := (ofPgnRegex_ok_iff K start pgn g).1 h
  have := ht.ok (replaySan_ok_inv K _ start g₁ hok hr)
  exact ⟨this, this.reach⟩

/-- **C15 (import, reachability) — `Game::from_pgn`, the standard initial position, EVERY text.** -/
theorem C15_import_reach_std (b0 : Board) (h0 : Board.ofBuilder K stdBuilder = .ok b0) (pgn : Str) (g : Game)
    (h : Game.ofPgnRegex K (ofBoard b0) pgn = .ok g) :
    (∃ ms g₁, Game.playMoves K (ofBoard b0) ms = .ok g₁ ∧
      (g = g₁ ∨ (∃ c, g₁.act K (.resign c) = .ok g) ∨
        ∃ g₂, g₁.act K (.offerDraw .white) = .ok g₂ ∧ g₂.act K .acceptDraw = .ok g)) ∧
    PlayedFrom K (ofBoard b0) g ∧ GameReach K g ∧ GameOK K g := by
  obtain ⟨ms, g₁, h1, h2, _, h4⟩ := C15_import_reach K _ pgn g h
  obtain ⟨h5, h6⟩ := C15_import_reach_ok K _ (stdGame_ok K b0 h0) pgn g h
  exact ⟨⟨ms, g₁, h1, h2⟩, h4, h6, h5⟩

/-- **C15 (import, tokens) — any reachable start game, EVERY text.**  If `from_pgn` returns `Ok(g)`: the text has a moves
section `sec`; the move tokens `findMoves sec` are played by a move list `ms` (a `TokenPlay`: each move is a generated legal
move of the position before it, accepted by `make_move`, and the token EQUALS its printed SAN text there), reaching `g₁`; `g`
is `g₁` after the tail.  ALL tokens are consumed: `ms.length = (findMoves sec).length`; the imported history is the history
of `start` extended by exactly these moves; and ply `start.history.moves.length + i` of the imported history was played on
token `i` (`History.PlyOf`). -/
theorem C15_import_tokens (start : Game) (hr0 : GameReach K start) (pgn : Str) (g : Game)
    (h : Game.ofPgnRegex K start pgn = .ok g) :
    ∃ sec ms g₁, regexMovesSection pgn = some sec ∧
      TokenPlay K start (findMoves sec) ms g₁ ∧ ImportTail K g₁ (findResult sec) g ∧
      ms.length = (findMoves sec).length ∧
      g.history.moves = start.history.moves ++ ms ∧
      g.history.positions.length = start.history.positions.length + (findMoves sec).length ∧
      ∀ (i : Nat) (hi : i < (findMoves sec).length),
        History.PlyOf K g.history (start.history.moves.length + i) (findMoves sec)[i] := by
  obtain ⟨sec, g₁, hs, hr, ht⟩ := (ofPgnRegex_ok_iff K start pgn g).1 h
  obtain ⟨ms, hp⟩ := replaySan_tokenPlay K _ start g₁ hr
  obtain ⟨ps, qs, _, l2, e1, e2, _, _⟩ := hp.history
  refine ⟨sec, ms, g₁, hs, hp, ht, hp.length, ?_, ?_, ?_⟩
  · rw [ht.frame.2.1, e2]
  · rw [ht.frame.2.1, e1, List.length_append, l2]
  · intro i hi
    rw [ht.frame.2.1]
    exact hp.plies (C13_chain' K start hr0) i hi

/-- **C15 (import, tokens) — `Game::from_board(b0)` then the import, EVERY board, EVERY text.**  The recorded moves of the
imported game are in one-to-one correspondence with the move tokens of the text: as many moves as tokens, the history starts at
`b0`, and ply `i` was played on token `i` (`History.PlyOf`). -/
theorem C15_import_tokens_ofBoard (b0 : Board) (pgn : Str) (g : Game)
    (h : Game.ofPgnRegex K (ofBoard b0) pgn = .ok g) :
    ∃ sec, regexMovesSection pgn = some sec ∧
      g.history.moves.length = (findMoves sec).length ∧
      g.history.positions.length = (findMoves sec).length + 1 ∧
      g.history.positions[0]? = some b0 ∧
      ∀ (i : Nat) (hi : i < (findMoves sec).length), History.PlyOf K g.history i (findMoves sec)[i] := by
  obtain ⟨sec, ms, g₁, hs, hp, ht, hl, e2, e1, hply⟩ := C15_import_tokens K _ (.init b0) pgn g h
  obtain ⟨_, qs, _, _, e1', _⟩ := hp.history
  simp only [ofBoard_history, History.fromPosition, List.nil_append, List.length_nil, Nat.zero_add,
    List.length_singleton] at e2 e1 hply e1'
  exact ⟨sec, hs, by rw [e2, hl], by omega, by rw [ht.frame.2.1, e1']; rfl, hply⟩

/-- **C15 (import, tokens) — `Game::from_pgn`, the standard initial position, EVERY text.** -/
theorem C15_import_tokens_std (b0 : Board) (_h0 : Board.ofBuilder K stdBuilder = .ok b0) (pgn : Str) (g : Game)
    (h : Game.ofPgnRegex K (ofBoard b0) pgn = .ok g) :
    ∃ sec, regexMovesSection pgn = some sec ∧
      g.history.moves.length = (findMoves sec).length ∧
      g.history.positions.length = (findMoves sec).length + 1 ∧
      g.history.positions[0]? = some b0 ∧
      ∀ (i : Nat) (hi : i < (findMoves sec).length), History.PlyOf K g.history i (findMoves sec)[i] :=
  C15_import_tokens_ofBoard K b0 pgn g h

/-- Before the last token the game is ongoing: in a successful import every proper prefix `pre` of the token list is
replayed to an ONGOING game — the game can end by itself (mate, stalemate, a draw by rule or repetition) on the LAST token only. -/
theorem C15_import_before_last (start : Game) (pgn : Str) (g : Game) (h : Game.ofPgnRegex K start pgn = .ok g)
    (sec : Str) (hs : regexMovesSection pgn = some sec) (pre : List Str) (tok : Str) (rest : List Str)
    (e : findMoves sec = pre ++ tok :: rest) :
    ∃ g', replaySan K start pre = .ok g' ∧ g'.status = .ongoing := by
  obtain ⟨sec', g₁, hs', hr, _⟩ := (ofPgnRegex_ok_iff K start pgn g).1 h
  rw [hs] at hs'; cases hs'
  rw [e, replaySan_append] at hr
  cases hp : replaySan K start pre with
  | error e' => rw [hp] at hr; cases hr
  | ok g' =>
    rw [hp] at hr
    -- a token is only ever accepted by an ongoing game
    obtain ⟨_, hplay⟩ := replaySan_tokenPlay K _ g' g₁ hr
    cases hplay with
    | cons _ _ _ _ ha _ => exact ⟨g', rfl, (act_move_ok K ha).1⟩

/-- An import whose moves end the game early fails, with the error of `C15_import_finished_stops` for the next token, whatever
follows -/
theorem C15_import_early_end_fails (start : Game) (pgn : Str) (sec : Str) (hs : regexMovesSection pgn = some sec)
    (pre : List Str) (tok : Str) (rest : List Str) (e : findMoves sec = pre ++ tok :: rest)
    (g' : Game) (hp : replaySan K start pre = .ok g') (hf : C12.finished g'.status = true) :
    Game.ofPgnRegex K start pgn =
      .error (match (sanCands K g' tok).getLast? with | none => .invalidPgn | some _ => .gameFinished) := by
  rw [ofPgnRegex_of_section K hs, Game.importOf, e, replaySan_append, hp]
  simp only
  rw [C15_import_finished_stops K g' hf tok rest]
  rfl

/-- **C15 (import, every failure) — from a game a caller can hold whose status is a board status, EVERY text.**  `from_pgn`
returns `Err` in these situations only: the text has no second section (`InvalidPGNString`); or a prefix `pre` of the move
tokens was played, reaching `g'`, and the next token `tok` has no candidate among the legal moves of `g'.position`
(`InvalidPGNString`), or has one although `g'` is finished — the game had ended by itself, by a board result or by repetition
(`GameIsAlreadyFinished`).  The tail never fails. -/
theorem C15_import_error (start : Game) (hok : GameOK K start) (hb : boardStatus start.status = true) (pgn : Str) (e : Err)
    (h : Game.ofPgnRegex K start pgn = .error e) :
    (regexMovesSection pgn = none ∧ e = .invalidPgn) ∨
    ∃ sec pre tok rest ms g', regexMovesSection pgn = some sec ∧ findMoves sec = pre ++ tok :: rest ∧
      TokenPlay K start pre ms g' ∧
      (((sanCands K g' tok).getLast? = none ∧ e = .invalidPgn) ∨
       (∃ m, (sanCands K g' tok).getLast? = some m ∧ C12.finished g'.status = true ∧ e = .gameFinished)) := by
  cases hs : regexMovesSection pgn with
  | none =>
    rw [ofPgnRegex_no_section K hs] at h
    cases h
    exact Or.inl ⟨rfl, rfl⟩
  | some sec =>
    rw [ofPgnRegex_of_section K hs, Game.importOf] at h
    right
    cases hr : replaySan K start (findMoves sec) with
    | error e' =>
      rw [hr] at h
      obtain rfl : e' = e := Except.error.inj h
      obtain ⟨pre, tok, rest, ms, g', e1, hp, hcase⟩ := replaySan_failure K _ start hok hb e' hr
      exact ⟨sec, pre, tok, rest, ms, g', rfl, e1, hp, hcase⟩
    | ok g₁ => rw [hr] at h; cases h

/-- **C15 (import, the move of a token is the only one).**  In a game imported from a game a caller can hold, take ply
`start.history.moves.length + i` (the ply of token `i`), `p` the position before it and `m` the recorded move.  Then `m` is
the ONLY move that the position `p` gives notation properties to (equivalently: that its legality test accepts) and whose
printed SAN text is the token (`C14_injective_valid`). -/
theorem C15_import_token_unique (start : Game) (hok : GameOK K start) (pgn : Str) (g : Game)
    (h : Game.ofPgnRegex K start pgn = .ok g) (sec : Str) (hs : regexMovesSection pgn = some sec)
    (i : Nat) (hi : i < (findMoves sec).length) (p : Board) (m : Move)
    (e1 : g.history.positions[start.history.moves.length + i]? = some p)
    (e3 : g.history.moves[start.history.moves.length + i]? = some m)
    (m' : Move) (mp' : MoveProps) (hq : p.moveProps K m' = .ok mp') (ht' : sanText m' mp' = (findMoves sec)[i]) : m' = m := by
  obtain ⟨sec', ms, g₁, hs', _, _, _, _, _, hply⟩ := C15_import_tokens K start hok.reach pgn g h
  rw [hs] at hs'; cases hs'
  exact (hply i hi).unique K (history_valid K (C15_import_reach_ok K start hok pgn g h).1) p m e1 e3 m' mp' hq ht'

/-- **C15 (import, completeness).**  From a game a caller can hold: if the move tokens of the text CAN be played at all — by
any move list `ms` of generated legal moves whose printed SAN texts are the tokens (`TokenPlay`) — then the import succeeds,
with exactly these moves; `g` is the game reached followed by the tail. -/
theorem C15_import_complete (start : Game) (hok : GameOK K start) (pgn sec : Str) (hs : regexMovesSection pgn = some sec)
    (ms : List Move) (g₁ g : Game) (hp : TokenPlay K start (findMoves sec) ms g₁)
    (ht : ImportTail K g₁ (findResult sec) g) : Game.ofPgnRegex K start pgn = .ok g :=
  (ofPgnRegex_ok_iff K start pgn g).2 ⟨sec, g₁, hs, hp.replay K hok, ht⟩

/-- … and every such way of playing the tokens is the imported one: same moves, same game before the tail -/
theorem C15_import_moves_unique (start : Game) (hok : GameOK K start) (pgn : Str) (g : Game)
    (h : Game.ofPgnRegex K start pgn = .ok g) (sec : Str) (hs : regexMovesSection pgn = some sec)
    (ms' : List Move) (g₁' : Game) (hp' : TokenPlay K start (findMoves sec) ms' g₁') :
    g.history.moves = start.history.moves ++ ms' ∧ g.history = g₁'.history ∧ g.position = g₁'.position ∧
      g.counter = g₁'.counter ∧ ImportTail K g₁' (findResult sec) g := by
  obtain ⟨sec', ms, g₁, hs', hp, ht, _, e2, _, _⟩ := C15_import_tokens K start hok.reach pgn g h
  rw [hs] at hs'; cases hs'
  obtain ⟨rfl, rfl⟩ := TokenPlay.unique K hok hp hp'
  exact ⟨e2, ht.frame.2.1, ht.frame.1, ht.frame.2.2, ht⟩

/-- **C15 (import, determinism).**  The importer reads a text only through the move tokens and the first result word of its
moves section: two texts that agree on these give the same outcome — the same error, or the same game (moves, positions,
notation properties, counter, status, result tag). -/
theorem C15_import_unique (start : Game) (pgn pgn' sec sec' : Str) (hs : regexMovesSection pgn = some sec)
    (hs' : regexMovesSection pgn' = some sec') (htok : findMoves sec = findMoves sec')
    (hres : findResult sec = findResult sec') : Game.ofPgnRegex K start pgn = Game.ofPgnRegex K start pgn' := by
  rw [ofPgnRegex_eq_importOf, ofPgnRegex_eq_importOf, hs, hs']
  show Game.importOf K start (findMoves sec) (findResult sec) = Game.importOf K start (findMoves sec') (findResult sec')
  rw [htok, hres]

theorem C15_import_unique_ok (start : Game) (pgn pgn' sec sec' : Str) (hs : regexMovesSection pgn = some sec)
    (hs' : regexMovesSection pgn' = some sec') (htok : findMoves sec = findMoves sec')
    (hres : findResult sec = findResult sec') (g g' : Game) (h : Game.ofPgnRegex K start pgn = .ok g)
    (h' : Game.ofPgnRegex K start pgn' = .ok g') :
    g = g' ∧ g.history.moves = g'.history.moves ∧ g.history.positions = g'.history.positions ∧ g.status = g'.status := by
  have e := C15_import_unique K start pgn pgn' sec sec' hs hs' htok hres
  rw [h, h'] at e
  cases e
  exact ⟨rfl, rfl, rfl, rfl⟩

/-- **C15 (import, result) — any start game, EVERY text.**  Let `g₁` be the game the move tokens are replayed to.  The tail
changes neither position, history nor counter.  If `g₁` is not ongoing (the moves ended the game: mate, stalemate, draw by rule
or by repetition) the result word is IGNORED: `g = g₁`.  If `g₁` is ongoing: no result word → `g = g₁` (ongoing); `1-0` →
Black resigned; `0-1` → White resigned; `1/2-1/2` → draw by agreement.  The first match of the result pattern is one of the
three words, so the list is exhaustive. -/
theorem C15_import_result (start : Game) (pgn : Str) (g : Game) (h : Game.ofPgnRegex K start pgn = .ok g) :
    ∃ sec g₁, regexMovesSection pgn = some sec ∧ replaySan K start (findMoves sec) = .ok g₁ ∧
      g.position = g₁.position ∧ g.history = g₁.history ∧ g.counter = g₁.counter ∧
      (g₁.status ≠ .ongoing → g = g₁) ∧
      (g₁.status = .ongoing →
        (findResult sec = none → g = g₁) ∧
        (findResult sec = some "1-0".toList →
          g = g₁.updateStatus (some (.resign .black)) ∧ g.status = .resigned .black) ∧
        (findResult sec = some "0-1".toList →
          g = g₁.updateStatus (some (.resign .white)) ∧ g.status = .resigned .white) ∧
        (findResult sec = some "1/2-1/2".toList →
          g = (g₁.updateStatus (some (.offerDraw .white))).updateStatus (some .acceptDraw) ∧ g.status = .drawAccepted)) ∧
      (findResult sec = none ∨ findResult sec = some "1-0".toList ∨ findResult sec = some "0-1".toList ∨
        findResult sec = some "1/2-1/2".toList) := by
  obtain ⟨sec, g₁, hs, hr, ht⟩ := (ofPgnRegex_ok_iff K start pgn g).1 h
  obtain rfl := ht.eq_tail
  refine ⟨sec, g₁, hs, hr, ht.frame.1, ht.frame.2.1, ht.frame.2.2, (tail_table g₁ _).1, (tail_table g₁ _).2, ?_⟩
  · cases hres : findResult sec with
    | none => exact Or.inl rfl
    | some r =>
      rcases findResult_values sec r hres with rfl | rfl | rfl
      · exact Or.inr (Or.inl rfl)
      · exact Or.inr (Or.inr (Or.inl rfl))
      · exact Or.inr (Or.inr (Or.inr rfl))

/-- **C15 (import, result) — from a game a caller can hold whose status is a board status** (in particular
`Game::from_pgn`: the standard initial game).  The status of the imported game, as a table; the result tag follows the status
(`C12.result_tag`); when the moves ended the game the status is a board result or repetition. -/
theorem C15_import_result_ok (start : Game) (hok : GameOK K start) (hb : boardStatus start.status = true) (pgn : Str)
    (g : Game) (h : Game.ofPgnRegex K start pgn = .ok g) :
    ∃ sec g₁, regexMovesSection pgn = some sec ∧ replaySan K start (findMoves sec) = .ok g₁ ∧
      boardStatus g₁.status = true ∧ g.result = resultTagOf g.status ∧
      g.status =
        (if g₁.status = .ongoing then
          (match findResult sec with
           | none => .ongoing
           | some r => if r = "1-0".toList then .resigned .black else if r = "0-1".toList then .resigned .white
                       else .drawAccepted)
         else g₁.status) := by
  obtain ⟨sec, g₁, hs, hr, ht⟩ := (ofPgnRegex_ok_iff K start pgn g).1 h
  obtain ⟨ms, hp⟩ := replaySan_tokenPlay K _ start g₁ hr
  refine ⟨sec, g₁, hs, hr, (playMoves_inv K hp.playMoves).1 hb,
    (C15_import_reach_ok K start hok pgn g h).2.inv.tag, ?_⟩
  rw [ht.eq_tail]
  unfold Game.tail
  split
  · next hs1 =>                     -- `g₁` ongoing: the status the tail sets, per result word
    cases hres : findResult sec with
    | none => exact hs1
    | some r => rcases findResult_values sec r hres with rfl | rfl | rfl <;> simp
  · rfl

theorem C15_import_result_std (b0 : Board) (h0 : Board.ofBuilder K stdBuilder = .ok b0) (pgn : Str)
    (g : Game) (h : Game.ofPgnRegex K (ofBoard b0) pgn = .ok g) :
    ∃ sec g₁, regexMovesSection pgn = some sec ∧ replaySan K (ofBoard b0) (findMoves sec) = .ok g₁ ∧
      boardStatus g₁.status = true ∧ g.result = resultTagOf g.status ∧
      g.status =
        (if g₁.status = .ongoing then
          (match findResult sec with
           | none => .ongoing
           | some r => if r = "1-0".toList then .resigned .black else if r = "0-1".toList then .resigned .white
                       else .drawAccepted)
         else g₁.status) :=
  C15_import_result_ok K _ (stdGame_ok K b0 h0) (ofBoard_boardStatus b0) pgn g h

/-- **C15 (import, rules) — from a game a caller can hold, EVERY text.**  For every token `i` of the moves section, at ply
`start.history.moves.length + i` of the imported history: the recorded move is legal BY THE RULES (`Spec.legal`) in the
recorded position before it, the recorded position after it is the rule-level successor (`Spec.apply`), the token is the
STANDARD SAN (`Spec.san`) of the move in that position, and no other rule-legal move of that position has that standard SAN. -/
theorem C15_import_rules (start : Game) (hok : GameOK K start) (pgn : Str) (g : Game)
    (h : Game.ofPgnRegex K start pgn = .ok g) :
    ∃ sec, regexMovesSection pgn = some sec ∧
      g.history.moves.length = start.history.moves.length + (findMoves sec).length ∧
      g.history.positions.length = g.history.moves.length + 1 ∧
      ∀ (i : Nat) (hi : i < (findMoves sec).length),
        History.RulePly g.history (start.history.moves.length + i) (findMoves sec)[i] := by
  obtain ⟨sec, ms, g₁, hs, _, _, hl, e2, _, hply⟩ := C15_import_tokens K start hok.reach pgn g h
  obtain ⟨hokg, hrg⟩ := C15_import_reach_ok K start hok pgn g h
  refine ⟨sec, hs, by rw [e2, List.length_append, hl], (C13_chain' K g hrg).len_pos, ?_⟩
  intro i hi
  exact (hply i hi).rule K (history_valid K hokg)

/-- **C15 (import, rules) — `Game::from_pgn`, the standard initial position, EVERY text.**  The imported history starts at the
standard initial position of the rules, has one move per token, and every ply `i` is the rule-level step described by token
`i` read as standard SAN. -/
theorem C15_import_rules_std (b0 : Board) (h0 : Board.ofBuilder K stdBuilder = .ok b0) (pgn : Str) (g : Game)
    (h : Game.ofPgnRegex K (ofBoard b0) pgn = .ok g) :
    ∃ sec, regexMovesSection pgn = some sec ∧
      g.history.moves.length = (findMoves sec).length ∧
      g.history.positions.length = (findMoves sec).length + 1 ∧
      g.history.positions[0]?.map Board.absPos = some stdBuilder.toPos ∧
      ∀ (i : Nat) (hi : i < (findMoves sec).length), History.RulePly g.history i (findMoves sec)[i] := by
  obtain ⟨sec, hs, l1, l2, hrule⟩ := C15_import_rules K _ (stdGame_ok K b0 h0) pgn g h
  obtain ⟨sec', hs', _, _, e0, _⟩ := C15_import_tokens_ofBoard K b0 pgn g h
  obtain rfl : sec = sec' := Option.some.inj (hs.symm.trans hs')
  simp only [ofBoard_history, History.fromPosition, List.length_nil, Nat.zero_add] at l1 hrule
  exact ⟨sec, hs, l1, by rw [l2, l1], by rw [e0, Option.map_some, (stdBoard_facts K b0 h0).2.2], hrule⟩

/-- **C15 (import, rules, index-free) — from a game a caller can hold, EVERY text.**  The new part of the imported history is
the READING of the token list by the rules and the standard notation (`SanLine`) from the position `start` stands on; by
`SanLine.unique` it is the only one. -/
theorem C15_import_sanLine (start : Game) (hok : GameOK K start) (pgn : Str) (g : Game)
    (h : Game.ofPgnRegex K start pgn = .ok g) :
    ∃ sec ms qs, regexMovesSection pgn = some sec ∧ g.history.moves = start.history.moves ++ ms ∧
      g.history.positions = start.history.positions ++ qs ∧
      SanLine start.position.absPos (findMoves sec) ms (qs.map Board.absPos) := by
  obtain ⟨sec, ms, g₁, hs, hp, ht, _, e2, _, _⟩ := C15_import_tokens K start hok.reach pgn g h
  obtain ⟨qs, e1, hline⟩ := hp.sanLine hok
  exact ⟨sec, ms, qs, hs, e2, by rw [ht.frame.2.1, e1], hline⟩

/-- **C15 (import, rules, index-free) — `Game::from_pgn`.**  The recorded moves of the imported game ARE the reading of the
token list from the standard initial position of the rules, and the recorded positions are `b0` followed by boards standing
for the positions of that reading. -/
theorem C15_import_sanLine_std (b0 : Board) (h0 : Board.ofBuilder K stdBuilder = .ok b0) (pgn : Str) (g : Game)
    (h : Game.ofPgnRegex K (ofBoard b0) pgn = .ok g) :
    ∃ sec qs, regexMovesSection pgn = some sec ∧ g.history.positions = b0 :: qs ∧
      SanLine stdBuilder.toPos (findMoves sec) g.history.moves (qs.map Board.absPos) := by
  obtain ⟨sec, ms, qs, hs, e2, e1, hline⟩ := C15_import_sanLine K _ (stdGame_ok K b0 h0) pgn g h
  simp only [ofBoard_history, History.fromPosition, List.nil_append, List.singleton_append, ofBoard_position,
    (stdBoard_facts K b0 h0).2.2] at e2 e1 hline
  exact ⟨sec, qs, hs, e1, e2 ▸ hline⟩

/-! ## non-vacuity

A text that is NOT an export of the library is imported successfully from the standard initial position, for EVERY key table;
the hypotheses of all the theorems above hold for it, and their conclusions are the expected concrete facts. -/
section nonvacuity
open C15Import

/-- not an export: a single tag, three line breaks, no space after the move number, runs of spaces, a trailing line break -/
def C15Import.sampleText : Str := "[Event \"x\"]\n\n\n 1.e4   1-0\n".toList
def C15Import.sampleSection : Str := " 1.e4   1-0\n".toList

theorem C15Import.sampleText_section : regexMovesSection sampleText = some sampleSection := by decide +kernel
theorem C15Import.sampleSection_moves : findMoves sampleSection = ["e4".toList] := by decide +kernel
theorem C15Import.sampleSection_result : findResult sampleSection = some "1-0".toList := by decide +kernel

abbrev C15Import.e4 : Move := .piece .pawn 12 28 none

theorem C15Import.std_e4_sanText (b0 : Board) (h0 : Board.ofBuilder K stdBuilder = .ok b0) (mp : MoveProps)
    (hmp : b0.moveProps K e4 = .ok mp) : sanText e4 mp = "e4".toList := by
  obtain ⟨hv, _, habs⟩ := stdBoard_facts K b0 h0
  rw [C14_refines_spec K b0 hv e4 mp (stdBoard_e4_legal K b0 h0) hmp, habs]
  decide +kernel

theorem C15Import.std_e4_game (b0 : Board) (h0 : Board.ofBuilder K stdBuilder = .ok b0) :
    ∃ g₁, (ofBoard b0).act K (.move e4) = .ok g₁ ∧ g₁.history.moves = [e4] ∧ g₁.status = .ongoing := by
  obtain ⟨hv, _, habs⟩ := stdBoard_facts K b0 h0
  have hleg := stdBoard_e4_legal K b0 h0
  obtain ⟨g₁, hg, hm⟩ := stdGame_e4 K b0 h0
  refine ⟨g₁, hg, hm, ?_⟩
  have hmoved := (act_move_ok K hg).2.2
  have hp : g₁.position = b0.makeMoveUnchecked K e4 := by rw [hmoved, moved_position, ofBoard_position]
  have hv' : g₁.position.Valid K := by rw [hp]; exact C06_step (K := K) b0 hv e4 hleg
  -- the board status is the rules' status (C04) of the rules' successor (C02), which is evaluated; and the position after the
  -- move cannot have been counted three times, the history holding two positions
  have hst : g₁.position.getStatus = .ongoing := by
    have h4 := C04_status g₁.position hv'
    have : Spec.status g₁.position.absPos = .ongoing := by
      rw [hp, (C02_successor K b0 hv e4 hleg).1, habs]; decide +kernel
    rw [this] at h4
    cases hgs : g₁.position.getStatus <;> rw [hgs] at h4 <;> first | rfl | cases h4
  have hcnt : g₁.positionCounter g₁.position < 3 := by
    rw [C11_positionCounter K g₁ (.step _ (.init b0) hg)]
    refine Nat.lt_of_le_of_lt (List.length_filter_le _ _) ?_
    rw [hmoved, moved_history]; simp [History.fromPosition]
  rw [(C11_status_after_move K _ g₁ _ hg).2, hst]
  simp only
  rw [if_neg (by omega)]

/-- The sample text is imported, for every key table: one move `1. e4`, Black resigned, tag `1-0` -/
theorem C15_import_sample (b0 : Board) (h0 : Board.ofBuilder K stdBuilder = .ok b0) :
    ∃ g, Game.ofPgnRegex K (ofBoard b0) sampleText = .ok g ∧ g.history.moves = [e4] ∧ g.status = .resigned .black ∧
      g.result = "1-0".toList := by
  obtain ⟨hv, _, _⟩ := stdBoard_facts K b0 h0
  have hmem : e4 ∈ b0.getLegalMoves K := (hv.mem_getLegalMoves_iff _).2 (stdBoard_e4_legal K b0 h0)
  obtain ⟨mp, hmp⟩ := C12.moveProps_ok K b0 e4 (stdBoard_e4_isLegalMove K b0 h0)
  obtain ⟨g₁, hg, hm1, hs1⟩ := std_e4_game K b0 h0
  have hplay : TokenPlay K (ofBoard b0) (findMoves sampleSection) [e4] g₁ := by
    rw [sampleSection_moves]
    exact .cons mp (by simpa using hmem) (by simpa using hmp) (std_e4_sanText K b0 h0 mp hmp) hg (.nil g₁)
  have htail : ImportTail K g₁ (findResult sampleSection) (g₁.updateStatus (some (.resign .black))) := by
    rw [sampleSection_result]
    exact .whiteWins _ hs1 (act_accepted K (by rw [hs1]; rfl))
  have himp := C15_import_complete K _ (stdGame_ok K b0 h0) sampleText sampleSection sampleText_section [e4] g₁ _ hplay htail
  refine ⟨_, himp, ?_, by simp, ?_⟩
  · rw [updateStatus_history, hm1]
  · rw [(C15_import_reach_ok K _ (stdGame_ok K b0 h0) _ _ himp).2.inv.tag, updateStatus_status]
    rfl

example (b0 : Board) (h0 : Board.ofBuilder K stdBuilder = .ok b0) :
    ∃ g qs, Game.ofPgnRegex K (ofBoard b0) sampleText = .ok g ∧ g.history.positions = b0 :: qs ∧
      SanLine stdBuilder.toPos ["e4".toList] [e4] (qs.map Board.absPos) := by
  obtain ⟨g, hg, hm, _, _⟩ := C15_import_sample K b0 h0
  obtain ⟨sec, qs, hs, e1, hline⟩ := C15_import_sanLine_std K b0 h0 sampleText g hg
  rw [sampleText_section] at hs; cases hs
  rw [sampleSection_moves, hm] at hline
  exact ⟨g, qs, hg, e1, hline⟩

example : ∃ b0 g, Board.ofBuilder K stdBuilder = .ok b0 ∧ Game.ofPgnRegex K (ofBoard b0) sampleText = .ok g ∧
    g.status = .resigned .black := by
  obtain ⟨b0, h0⟩ := stdBoard_exists K
  obtain ⟨g, hg, _, hs, _⟩ := C15_import_sample K b0 h0
  exact ⟨b0, g, h0, hg, hs⟩

example (start : Game) : Game.ofPgnRegex K start "1. e4 e5 1-0".toList = .error .invalidPgn := by
  have h : regexMovesSection "1. e4 e5 1-0".toList = none := by decide +kernel
  exact ofPgnRegex_no_section K h

example (start : Game) : Game.ofPgnRegex K start "[x]\r\n\r\n{nothing here}".toList = .ok start := by
  have h : regexMovesSection "[x]\r\n\r\n{nothing here}".toList = some "{nothing here}".toList := by decide +kernel
  have h1 : findMoves "{nothing here}".toList = [] := by decide +kernel
  have h2 : findResult "{nothing here}".toList = none := by decide +kernel
  rw [ofPgnRegex_of_section K h, h1, h2, Game.importOf]
  exact congrArg Except.ok (by unfold Game.tail; split <;> rfl)

example (g : Game) (hs : g.status = .checkMated .black) (tok : Str) (rest : List Str) :
    ∃ e, replaySan K g (tok :: rest) = .error e ∧ (e = .invalidPgn ∨ e = .gameFinished) := by
  rw [C15_import_finished_stops K g (by rw [hs]; rfl) tok rest]
  cases (sanCands K g tok).getLast? with
  | none => exact ⟨_, rfl, Or.inl rfl⟩
  | some m => exact ⟨_, rfl, Or.inr rfl⟩

example (start g₁ : Game) (toks : List Str) (hr : replaySan K start toks = .ok g₁) (hs : g₁.status = .checkMated .black) :
    Game.importOf K start toks (some "0-1".toList) = .ok g₁ :=
  by rw [Game.importOf, hr]; exact congrArg Except.ok (tail_of_not_ongoing (by rw [hs]; exact GStatus.noConfusion) _)

end nonvacuity

end Chess

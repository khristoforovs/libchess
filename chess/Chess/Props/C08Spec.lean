import Chess.Spec.FenSpec
import Chess.Lemmas.Fen
import Chess.Props.C18
/-! # C08 (standard) — the FEN text written is the STANDARD six-field FEN of the builder's content

`FenSpec.read` (Chess/Spec/FenSpec.lean) is a strict reader of standard FEN written from the PGN
specification, independently of the model's printer and parser. -/
namespace Chess
open Chess.Fen Chess.FenSpec

theorem C08.split_printFen (bb : Builder) : splitOn ' ' (printFen bb) =
    [placement bb.pieces, stmText bb.stm, castlesText (bb.rights .white) (bb.rights .black),
      epText bb.ep, natStr bb.half, natStr bb.full] := by
  have : printFen bb = joinSep ' ' [placement bb.pieces, stmText bb.stm,
      castlesText (bb.rights .white) (bb.rights .black), epText bb.ep, natStr bb.half, natStr bb.full] := by
    simp [printFen_eq, joinSep]
  rw [this, splitOn_joinSep _ _ (by simp)]
  simp [space_not_mem_placement, space_not_mem_stmText, space_not_mem_castlesText, space_not_mem_epText,
    not_mem_natStr]

def recordOf (bb : Builder) : FenRecord :=
  { placement := bb.pieces, stm := bb.stm,
    castleK := (bb.rights .white).hasK, castleQ := (bb.rights .white).hasQ,
    castlek := (bb.rights .black).hasK, castleq := (bb.rights .black).hasQ,
    ep := bb.ep, half := bb.half, full := bb.full }

namespace C08Spec

theorem fields_eq_splitOn (sep : Char) (s : Str) : fields sep s = splitOn sep s := by
  induction s with
  | nil => rfl
  | cons c cs ih =>
    rw [fields, splitOn, ih]
    rcases h : splitOn sep cs with _ | ⟨p, ps⟩
    · exact absurd h (splitOn_ne_nil _ _)
    · by_cases hc : c = sep <;> simp [hc]

/-! ## the output direction: the strict reader reads the printed text, field by field -/
theorem pieceOfChar_pieceChar : ∀ p : Piece, pieceOfChar (pieceChar p) = some p := by
  rintro ⟨t, c⟩; cases t <;> cases c <;> decide

theorem digit_facts : ∀ e : Fin 9, 1 ≤ e.val →
    pieceOfChar e.val.digitChar = none ∧ emptyRun e.val.digitChar = some e.val := by
  decide

theorem readCells_piece (d : Bool) (p : Piece) (cs : Str) :
    readCells d (pieceChar p :: cs) = (readCells false cs).map (some p :: ·) := by
  rw [readCells]; simp only [pieceOfChar_pieceChar]

theorem readCells_digit (e : Nat) (h1 : 1 ≤ e) (h8 : e ≤ 8) (cs : Str) :
    readCells false (natStr e ++ cs) = (readCells true cs).map (List.replicate e none ++ ·) := by
  obtain ⟨a, b⟩ := digit_facts ⟨e, by omega⟩ h1
  simp only at a b
  rw [natStr_lt_ten e (by omega), List.singleton_append, readCells]; simp only [a, b]; rfl

theorem readCells_rle : ∀ (l : List (Option Piece)) (e : Nat), e + l.length ≤ 8 →
    readCells false (rle e l) = some (List.replicate e none ++ l)
  | [], e, h => by
    rw [rle]
    by_cases he : e = 0
    · subst he; rfl
    · have := readCells_digit e (by omega) (by omega) []
      simp only [List.append_nil] at this
      simp [he, this, readCells]
  | none :: l, e, h => by
    rw [rle, readCells_rle l (e + 1) (by simp only [List.length_cons] at h; omega), List.replicate_succ',
      List.append_assoc]
    rfl
  | some p :: l, e, h => by
    simp only [List.length_cons] at h
    rw [rle]
    by_cases he : e = 0
    · subst he
      simp [readCells_piece, readCells_rle l 0 (by omega)]
    · simp [he, readCells_digit e (by omega) (by omega), readCells_piece, readCells_rle l 0 (by omega)]

theorem readRank_printRank (P : Sq → Option Piece) (r : Fin 8) : readRank (printRank P r) = some (rankCells P r) := by
  rw [readRank, printRank_eq_rle, readCells_rle _ 0 (by simp [rankCells])]
  simp [rankCells]

theorem fields_placement (P : Sq → Option Piece) :
    fields '/' (placement P) = ([7, 6, 5, 4, 3, 2, 1, 0] : List (Fin 8)).map (printRank P) := by
  rw [fields_eq_splitOn, placement_eq, splitOn_joinSep _ _ (by simp)]
  simp [slash_not_mem_printRank]

theorem rows_getD (P : Sq → Option Piece) (r : Fin 8) :
    ([rankCells P 7, rankCells P 6, rankCells P 5, rankCells P 4, rankCells P 3, rankCells P 2, rankCells P 1,
      rankCells P 0] : List (List (Option Piece))).getD (7 - r.val) [] = rankCells P r := by
  match r with
  | ⟨0, _⟩ => rfl | ⟨1, _⟩ => rfl | ⟨2, _⟩ => rfl | ⟨3, _⟩ => rfl
  | ⟨4, _⟩ => rfl | ⟨5, _⟩ => rfl | ⟨6, _⟩ => rfl | ⟨7, _⟩ => rfl

theorem rankCells_getD (P : Sq → Option Piece) (r : Fin 8) (i : Nat) (h : i < 8) :
    (rankCells P r).getD i none = P ⟨r.val * 8 + i, by omega⟩ := by
  simp [rankCells, List.getD_eq_getElem?_getD, h]

theorem readPlacement_placement (P : Sq → Option Piece) : readPlacement (placement P) = some P := by
  unfold readPlacement
  rw [fields_placement]
  simp only [List.map_cons, List.map_nil, List.mapM_cons, List.mapM_nil, readRank_printRank, Option.pure_def,
    Option.bind_eq_bind, Option.bind_some, List.length_cons, List.length_nil]
  simp only [if_true]
  apply congrArg some
  funext sq
  have := rows_getD P ⟨sq.val / 8, by omega⟩
  simp only at this
  rw [this, rankCells_getD P _ _ (Nat.mod_lt _ (by decide))]
  apply congrArg P
  apply Fin.ext; simp only; omega

theorem readSide_stmText (c : Color) : readSide (stmText c) = some c := by cases c <;> rfl

theorem readCastling_castlesText (w b : CR) :
    readCastling (castlesText w b) = some (w.hasK, w.hasQ, b.hasK, b.hasQ) := by
  cases w <;> cases b <;> decide

theorem readEp_printSquare : ∀ s : Sq, readEp (printSquare s) = some (some s) := by decide

theorem readEp_epText (ep : Option Sq) : readEp (epText ep) = some ep := by
  cases ep with
  | none => rfl
  | some s => exact readEp_printSquare s

theorem digitVal_digitChar : ∀ d : Fin 10, digitVal d.val.digitChar = some d.val := by decide

theorem readDigits_append (acc : Nat) (a b : Str) :
    readDigits acc (a ++ b) = (readDigits acc a).bind (fun v => readDigits v b) := by
  induction a generalizing acc with
  | nil => rfl
  | cons c cs ih =>
    rw [List.cons_append, readDigits, readDigits]
    cases digitVal c with
    | none => rfl
    | some d => exact ih _

theorem readDigits_single (acc d : Nat) (h : d < 10) : readDigits acc [d.digitChar] = some (10 * acc + d) := by
  have := digitVal_digitChar ⟨d, h⟩
  simp only at this
  rw [readDigits, this]; rfl

theorem readDigits_toDigits (n : Nat) : readDigits 0 (Nat.toDigits 10 n) = some n := by
  induction n using Nat.strongRecOn with
  | _ n ih =>
    rw [Nat.toDigits_eq_if (by decide)]
    split
    · rw [readDigits_single _ _ (by omega)]; simp
    · rw [readDigits_append, ih (n / 10) (by omega), Option.bind_some, readDigits_single _ _ (by omega)]
      apply congrArg some; omega

theorem toDigits_head_zero (n : Nat) (h : (Nat.toDigits 10 n).head? = some '0') : n = 0 := by
  induction n using Nat.strongRecOn with
  | _ n ih =>
    rw [Nat.toDigits_eq_if (by decide)] at h
    split at h
    · simpa using h
    · rw [List.head?_append] at h
      rcases hq : Nat.toDigits 10 (n / 10) with _ | ⟨x, xs⟩
      · exact absurd hq Nat.toDigits_ne_nil
      · rw [hq] at h
        have := ih (n / 10) (by omega) (by rw [hq]; simpa using h)
        omega

theorem readNumber_natStr (n : Nat) : readNumber (natStr n) = some n := by
  rw [natStr_eq]
  have hd := readDigits_toDigits n
  unfold readNumber
  rw [if_neg Nat.toDigits_ne_nil]
  by_cases h0 : Nat.toDigits 10 n = ['0']
  · rw [if_pos h0]
    rw [h0] at hd
    exact hd
  · rw [if_neg h0]
    by_cases h1 : (Nat.toDigits 10 n).head? = some '0'
    · have := toDigits_head_zero n h1
      subst this
      exact absurd (by simp) h0
    · rw [if_neg h1]; exact hd

/-! ## the input direction: what the strict reader accepts, the library's parser accepts with the same meaning -/

theorem pieceOfChar_some {c : Char} {p : Piece} (h : pieceOfChar c = some p) : c = pieceChar p := by
  unfold pieceOfChar at h
  split at h <;> first | (cases h; rfl) | cases h

theorem emptyRun_some {c : Char} {n : Nat} (h : emptyRun c = some n) : 1 ≤ n ∧ n ≤ 8 ∧ c = n.digitChar := by
  unfold emptyRun at h
  split at h <;> first | (cases h; decide) | cases h

theorem fileOfChar_some {c : Char} {x : Fin 8} (h : fileOfChar c = some x) : c = fileChar x.val := by
  unfold fileOfChar at h
  split at h <;> first | (cases h; rfl) | cases h

theorem rankOfChar_some {c : Char} {x : Fin 8} (h : rankOfChar c = some x) : c = rankChar x.val := by
  unfold rankOfChar at h
  split at h <;> first | (cases h; rfl) | cases h

theorem digitVal_some {c : Char} {d : Nat} (h : digitVal c = some d) :
    c.isDigit = true ∧ c.toNat - '0'.toNat = d := by
  unfold digitVal at h
  split at h <;> first | (cases h; decide) | cases h

theorem readDigits_spec (t : Str) (acc v : Nat) (h : readDigits acc t = some v) :
    (∀ c ∈ t, c.isDigit = true) ∧ v = Nat.ofDigitChars 10 t acc := by
  induction t generalizing acc with
  | nil => rw [readDigits] at h; cases h; simp
  | cons c cs ih =>
    rw [readDigits] at h
    cases hd : digitVal c with
    | none => rw [hd] at h; cases h
    | some d =>
      rw [hd] at h
      obtain ⟨a, b⟩ := digitVal_some hd
      obtain ⟨i1, i2⟩ := ih _ h
      refine ⟨?_, ?_⟩
      · intro x hx
        rcases List.mem_cons.mp hx with e | e
        · rw [e]; exact a
        · exact i1 x e
      · rw [Nat.ofDigitChars_cons, b]; exact i2

theorem readNumber_parseUsize (t : Str) (n : Nat) (h : readNumber t = some n) (hn : n < 2 ^ 64) :
    parseUsize t = some n := by
  unfold readNumber at h
  by_cases h0 : t = []
  · rw [if_pos h0] at h; cases h
  · rw [if_neg h0] at h
    have key : readDigits 0 t = some n := by
      by_cases h1 : t = ['0']
      · rw [if_pos h1] at h; rw [h1]; cases h; rfl
      · rw [if_neg h1] at h
        by_cases h2 : t.head? = some '0'
        · rw [if_pos h2] at h; cases h
        · rw [if_neg h2] at h; exact h
    obtain ⟨a, b⟩ := readDigits_spec t 0 n key
    rw [parseUsize_digits t h0 a]
    simp only [← b, hn, if_true]

theorem readSide_agrees (t : Str) (c : Color) (h : readSide t = some c) :
    (if t = ['w'] ∨ t = ['W'] then some Color.white
      else if t = ['b'] ∨ t = ['B'] then some Color.black else none) = some c := by
  unfold readSide at h
  split at h
  · cases h; decide
  · cases h; decide
  · cases h

theorem eat_spec (c : Char) (s s' : Str) (b : Bool) (h : eat c s = (b, s')) :
    s = (if b then [c] else []) ++ s' := by
  unfold eat at h
  split at h
  · cases h; rfl
  · split at h
    · cases h; simp_all
    · cases h; rfl

theorem readCastling_form (t : Str) (a b c d : Bool) (h : readCastling t = some (a, b, c, d)) :
    (t = ['-'] ∧ a = false ∧ b = false ∧ c = false ∧ d = false) ∨
    ((a || b || c || d) = true ∧ t = (if a then ['K'] else []) ++ ((if b then ['Q'] else []) ++
      ((if c then ['k'] else []) ++ (if d then ['q'] else [])))) := by
  unfold readCastling at h
  split at h
  next hdash =>
    cases h
    exact .inl ⟨hdash, rfl, rfl, rfl, rfl⟩
  next =>
    -- the four letters are taken off in turn; `hc`: nothing is left over and some letter was there
    rcases h1 : eat 'K' t with ⟨wk, s1⟩
    rcases h2 : eat 'Q' s1 with ⟨wq, s2⟩
    rcases h3 : eat 'k' s2 with ⟨bk, s3⟩
    rcases h4 : eat 'q' s3 with ⟨bq, s4⟩
    simp only [h1, h2, h3, h4] at h
    split at h
    next hc =>
      cases h
      refine .inr ⟨hc.2, ?_⟩
      rw [eat_spec _ _ _ _ h1, eat_spec _ _ _ _ h2, eat_spec _ _ _ _ h3, eat_spec _ _ _ _ h4, hc.1, List.append_nil]
    next => cases h

theorem readCastling_agrees (t : Str) (a b c d : Bool) (h : readCastling t = some (a, b, c, d)) :
    (CR.ofBits (t.contains 'K') (t.contains 'Q')).hasK = a ∧ (CR.ofBits (t.contains 'K') (t.contains 'Q')).hasQ = b ∧
    (CR.ofBits (t.contains 'k') (t.contains 'q')).hasK = c ∧ (CR.ofBits (t.contains 'k') (t.contains 'q')).hasQ = d := by
  rcases readCastling_form t a b c d h with ⟨rfl, rfl, rfl, rfl, rfl⟩ | ⟨h1, rfl⟩
  · decide
  · revert h1
    cases a <;> cases b <;> cases c <;> cases d <;> decide

theorem square_text (x y : Fin 8) : [fileChar x.val, rankChar y.val] = printSquare ⟨8 * y.val + x.val, by omega⟩ := by
  have h1 : (8 * y.val + x.val) % 8 = x.val := by omega
  have h2 : (8 * y.val + x.val) / 8 = y.val := by omega
  simp only [printSquare, Sq.fl, Sq.rk, h1, h2]

theorem readEp_agrees (t : Str) (ep : Option Sq) (h : readEp t = some ep) :
    (∃ e, parseSquare t = .error e ∧ ep = none) ∨ (∃ s, parseSquare t = .ok s ∧ ep = some s) := by
  unfold readEp at h
  split at h
  next =>
    cases h
    exact Or.inl ⟨.invalidSquare, by decide, rfl⟩
  next f r =>
    split at h
    next x y hx hy =>
      cases h
      rw [fileOfChar_some hx, rankOfChar_some hy, square_text, C18.square_text_roundtrip]
      exact Or.inr ⟨_, rfl, rfl⟩
    next => cases h
  next => cases h

theorem getD_replicate_append (n i : Nat) (l : List (Option Piece)) :
    (List.replicate n none ++ l).getD i none = if i < n then none else l.getD (i - n) none := by
  simp only [List.getD_eq_getElem?_getD, List.getElem?_append, List.length_replicate, List.getElem?_replicate]
  split <;> simp_all

theorem run_cells (T : Sq → Option Piece) (r : Fin 8) (t : Str) : ∀ (d : Bool) (cells : List (Option Piece)),
    readCells d t = some cells → ∀ (c : FenCursor) (k : Nat), Upto T r k c → k + cells.length ≤ 8 →
    (∀ i, (h : k + i < 8) → T ⟨r.val * 8 + (k + i), by omega⟩ = cells.getD i none) →
    ∃ c', run (some c) t = some c' ∧ Upto T r (k + cells.length) c' := by
  induction t with
  | nil =>
    intro d cells h c k hc _ _
    rw [readCells] at h; cases h
    exact ⟨c, rfl, hc⟩
  | cons ch cs ih =>
    intro d cells h c k hc hlen hT
    rw [readCells] at h
    split at h
    next p hp =>
      -- a piece letter: `cells = some p :: cells'`; `hT` at 0 is the man written, at `i + 1` it speaks of `cells'`
      obtain ⟨cells', hr, rfl⟩ := Option.map_eq_some_iff.mp h
      simp only [List.length_cons] at hlen
      have hman : T ⟨r.val * 8 + k, by omega⟩ = some p := by simpa using hT 0 (by omega)
      obtain ⟨c1, e1, u1⟩ := hc.piece (by omega) hman
      have hT' : ∀ i, (h : k + 1 + i < 8) → T ⟨r.val * 8 + (k + 1 + i), by omega⟩ = cells'.getD i none := by
        intro i hi
        have := hT (i + 1) (by omega)
        simpa [Nat.add_assoc, Nat.add_comm 1 i] using this
      obtain ⟨c', e', u'⟩ := ih false cells' hr c1 (k + 1) u1 (by omega) hT'
      refine ⟨c', ?_, by simpa [Nat.add_assoc, Nat.add_comm 1] using u'⟩
      rw [pieceOfChar_some hp, run_cons, e1, e']
    next =>
      split at h
      next n he =>
        split at h
        next => cases h
        next =>
          -- a digit `n`, not after a digit: `cells = replicate n none ++ cells'`; `hT` below `n` gives the empty squares
          -- the cursor skips, from `n` on it speaks of `cells'`
          obtain ⟨cells', hr, rfl⟩ := Option.map_eq_some_iff.mp h
          obtain ⟨n1, n8, hch⟩ := emptyRun_some he
          simp only [List.length_append, List.length_replicate] at hlen
          have hempty : ∀ sq : Sq, sq.val / 8 = r.val → k ≤ sq.val % 8 → sq.val % 8 < k + n → T sq = none := by
            intro sq a b c
            have := hT (sq.val % 8 - k) (by omega)
            rw [getD_replicate_append, if_pos (by omega)] at this
            rw [← this]
            congr 1
            apply Fin.ext
            simp only
            omega
          obtain ⟨c1, e1, u1⟩ := hc.digit n1 (by omega) hempty
          have hT' : ∀ i, (h : k + n + i < 8) → T ⟨r.val * 8 + (k + n + i), by omega⟩ = cells'.getD i none := by
            intro i hi
            have := hT (n + i) (by omega)
            rw [getD_replicate_append, if_neg (by omega), Nat.add_sub_cancel_left] at this
            simpa [Nat.add_assoc] using this
          obtain ⟨c', e', u'⟩ := ih true cells' hr c1 (k + n) u1 (by omega) hT'
          refine ⟨c', ?_, by simpa [Nat.add_assoc] using u'⟩
          rw [hch, run_cons, e1, e']
      next => cases h

theorem readRank_some {t : Str} {row : List (Option Piece)} (h : readRank t = some row) :
    readCells false t = some row ∧ row.length = 8 := by
  unfold readRank at h
  split at h
  · split at h
    · cases h; exact ⟨‹_›, ‹_›⟩
    · cases h
  · cases h

theorem mapM_cons_some {α β} {f : α → Option β} {a : α} {l : List α} {rows : List β}
    (h : (a :: l).mapM f = some rows) : ∃ b bs, f a = some b ∧ l.mapM f = some bs ∧ rows = b :: bs := by
  rw [List.mapM_cons] at h
  cases hb : f a with
  | none => rw [hb] at h; cases h
  | some b =>
    cases hbs : l.mapM f with
    | none => rw [hb, hbs] at h; cases h
    | some bs => rw [hb, hbs] at h; cases h; exact ⟨b, bs, rfl, rfl, rfl⟩

theorem mapM_length {α β} {f : α → Option β} : ∀ {l : List α} {rows : List β}, l.mapM f = some rows →
    rows.length = l.length
  | [], _, h => by rw [List.mapM_nil] at h; cases h; rfl
  | _ :: _, _, h => by
    obtain ⟨b, bs, _, h2, rfl⟩ := mapM_cons_some h
    simp [mapM_length h2]

theorem run_ranks (T : Sq → Option Piece) : ∀ (ts : List Str) (rows : List (List (Option Piece))),
    ts.mapM readRank = some rows → ∀ (r : Fin 8) (c : FenCursor), ts.length = r.val + 1 → Upto T r 0 c →
    (∀ sq : Sq, sq.val / 8 ≤ r.val → T sq = (rows.getD (r.val - sq.val / 8) []).getD (sq.val % 8) none) →
    ∃ c', run (some c) (joinSep '/' ts) = some c' ∧ Upto T 0 8 c' := by
  intro ts
  induction ts with
  | nil => intro _ _ _ _ h; cases h
  | cons t ts ih =>
    intro rows hm r c hlen hc hT
    obtain ⟨row, rows', h1, h2, rfl⟩ := mapM_cons_some hm
    obtain ⟨hcells, hrow⟩ := readRank_some h1
    -- the first text is rank `r` itself: `rows.getD 0` is `row`
    have hrowT : ∀ i, (h : 0 + i < 8) → T ⟨r.val * 8 + (0 + i), by omega⟩ = row.getD i none := by
      intro i hi
      have := hT ⟨r.val * 8 + (0 + i), by omega⟩ (by simp only; omega)
      rw [this]
      simp only
      have a : (r.val * 8 + (0 + i)) / 8 = r.val := by omega
      have b : (r.val * 8 + (0 + i)) % 8 = i := by omega
      rw [a, b, Nat.sub_self]
      rfl
    obtain ⟨c1, e1, u1⟩ := run_cells T r t false row hcells c 0 hc (by omega) hrowT
    rw [hrow, Nat.zero_add] at u1
    cases ts with
    | nil =>
      have : r = 0 := Fin.ext (by simpa using hlen.symm)
      exact ⟨c1, e1, this ▸ u1⟩
    | cons t' ts' =>
      simp only [List.length_cons] at hlen
      obtain ⟨c2, e2, u2⟩ := u1.slash (r' := ⟨r.val - 1, by omega⟩) (by simp only; omega)
      -- below rank `r` the row index into `row :: rows'` is one more than the index into `rows'`
      have hT' : ∀ sq : Sq, sq.val / 8 ≤ r.val - 1 →
          T sq = (rows'.getD (r.val - 1 - sq.val / 8) []).getD (sq.val % 8) none := by
        intro sq hs
        rw [hT sq (by omega)]
        have : r.val - sq.val / 8 = (r.val - 1 - sq.val / 8) + 1 := by omega
        rw [this, List.getD_cons_succ]
      obtain ⟨c', e', u'⟩ := ih rows' h2 ⟨r.val - 1, by omega⟩ c2 (by simp only [List.length_cons]; omega) u2 hT'
      refine ⟨c', ?_, u'⟩
      rw [joinSep, run_append, e1, run_cons, e2, e']

theorem readPlacement_agrees (t : Str) (pl : Sq → Option Piece) (h : readPlacement t = some pl) :
    ∃ cur, run (some { pieces := fun _ => none, rank := 7, file := 0 }) t = some cur ∧ cur.pieces = pl := by
  unfold readPlacement at h
  split at h
  next rows hm =>
    split at h
    next hl =>
      cases h
      rw [fields_eq_splitOn] at hm
      obtain ⟨c', e, u⟩ := run_ranks _ _ rows hm 7 _ (by rw [← mapM_length hm, hl]; rfl) (Upto.init _) (fun sq _ => rfl)
      rw [joinSep_splitOn] at e
      exact ⟨c', e, u.final⟩
    next => cases h
  next => cases h

end C08Spec
open C08Spec

theorem Fen.placement_spec (P : Sq → Option Piece) :
    ' ' ∉ placement P ∧
    ∃ cur, run (some { pieces := fun _ => none, rank := 7, file := 0 }) (placement P) = some cur ∧
      cur.pieces = P :=
  ⟨space_not_mem_placement P, readPlacement_agrees _ _ (readPlacement_placement P)⟩

/-- **C08 (standard text).**  The text written for a builder is a standard FEN record (accepted by the strict, independent
reader `FenSpec.read`) and its meaning is exactly the content of the builder.  For every placement (legal
or not), every combination of rights, every en-passant square and ALL clock values. -/
theorem C08_standard (bb : Builder) : FenSpec.read (printFen bb) = some (recordOf bb) := by
  unfold FenSpec.read
  rw [fields_eq_splitOn, C08.split_printFen]
  simp only [readPlacement_placement, readSide_stmText, readCastling_castlesText, readEp_epText,
    readNumber_natStr]
  rfl

/-- **C08 (input direction).**  Every standard FEN record whose clocks fit a `usize` is accepted by the library's
parser, with the same meaning.  (The library's parser is laxer: it also accepts non-standard texts.) -/
theorem C08_read_agrees_parse (s : Str) (r : FenRecord) (h : FenSpec.read s = some r)
    (hb : r.half < 2 ^ 64 ∧ r.full < 2 ^ 64) : ∃ bb, parseFen s = .ok bb ∧ recordOf bb = r := by
  unfold FenSpec.read at h
  split at h
  next f1 f2 f3 f4 f5 f6 hf =>
    split at h
    next pl stm wk wq bk bq ep half full h1 h2 h3 h4 h5 h6 =>
      cases h
      -- field by field, the parser computes the same value; it runs in its own order (clocks first)
      obtain ⟨cur, hrun, hP⟩ := readPlacement_agrees f1 pl h1
      have hstm := readSide_agrees f2 stm h2
      obtain ⟨a1, a2, a3, a4⟩ := readCastling_agrees f3 wk wq bk bq h3
      have hep := readEp_agrees f4 ep h4
      have hh := readNumber_parseUsize f5 half h5 hb.1
      have hfl := readNumber_parseUsize f6 full h6 hb.2
      unfold parseFen
      rw [← fields_eq_splitOn, hf]
      simp only [hh, hfl]
      unfold run at hrun
      simp only [hrun, hstm]
      rcases hep with ⟨e, hq, rfl⟩ | ⟨q, hq, rfl⟩
      all_goals
        simp only [hq]
        refine ⟨_, rfl, ?_⟩
        simp only [recordOf, a1, a2, a3, a4, hP]
    next => cases h
  next => cases h

theorem C08_standard_reprint (s : Str) (r : FenRecord) (h : FenSpec.read s = some r)
    (hb : r.half < 2 ^ 64 ∧ r.full < 2 ^ 64) :
    ∃ bb, parseFen s = .ok bb ∧ FenSpec.read (printFen bb) = some r := by
  obtain ⟨bb, h1, h2⟩ := C08_read_agrees_parse s r h hb
  exact ⟨bb, h1, by rw [C08_standard, h2]⟩

/-- the hypotheses are satisfiable: the text of the empty builder is standard, so the parser accepts it -/
example : ∃ bb, parseFen (printFen Builder.new) = .ok bb ∧ recordOf bb = recordOf Builder.new :=
  C08_read_agrees_parse _ _ (C08_standard _) (by decide)

end Chess

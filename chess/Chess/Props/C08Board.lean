import Chess.Props.C08
import Chess.Props.C09
/-! # C08 (board level) — FEN text / builder / piece-list round trips of a whole `ChessBoard`

For every `Valid` board `b` (every reachable position is `Valid`: C06/C09) and an ARBITRARY key table `K`, each of
the three paths gives back a board EQUAL to `b` in all twelve fields — masks, side, castling rights, en-passant
square, clocks, hash, check and pin masks, terminal flag. -/
namespace Chess
open Board Construct Chess.Fen Chess.FenSpec
variable (K : Keys)

theorem toBuilder_toPos {b : Board} (hc : b.Cons) : (b.toBuilder).toPos = b.absPos := by
  unfold Builder.toPos Board.absPos
  rw [toBuilder_pieces hc]
  rfl

/-- **C08 (builder path).**  `ChessBoard → BoardBuilder → ChessBoard` is the identity on valid boards, in all twelve fields -/
theorem C08_board_roundtrip (b : Board) (hv : b.Valid K) : Board.ofBuilder K b.toBuilder = .ok b := by
  obtain ⟨b', hb'⟩ := C09_complete K b.toBuilder (by rw [toBuilder_toPos hv.cons]; exact hv.pos)
  obtain ⟨hv', ha⟩ := C09_sound K _ b' hb'
  rw [hv'.eq_of_absPos K hv (ha.trans (toBuilder_toPos hv.cons))] at hb'
  exact hb'

theorem C08_board_roundtrip_fields (b : Board) (hv : b.Valid K) :
    ∃ b', Board.ofBuilder K b.toBuilder = .ok b' ∧
      b'.pieces = b.pieces ∧ b'.colors = b.colors ∧ b'.combined = b.combined ∧ b'.stm = b.stm ∧
      b'.rights = b.rights ∧ b'.ep = b.ep ∧ b'.pinned = b.pinned ∧ b'.checks = b.checks ∧ b'.term = b.term ∧
      b'.half = b.half ∧ b'.full = b.full ∧ b'.hash = b.hash ∧ b'.getStatus = b.getStatus :=
  ⟨b, C08_board_roundtrip K b hv, rfl, rfl, rfl, rfl, rfl, rfl, rfl, rfl, rfl, rfl, rfl, rfl, rfl⟩

/-- **C08 (text path).**  `ChessBoard::from_fen(board.as_fen())` is `board` itself — every field, for clocks that fit a `usize` -/
theorem C08_fen_roundtrip (b : Board) (hv : b.Valid K) (hh : b.half < 2 ^ 64) (hf : b.full < 2 ^ 64) :
    Board.ofFen K b.asFen = .ok b := by
  unfold Board.ofFen Board.asFen
  rw [C08.C08_builder_roundtrip b.toBuilder hh hf]
  exact C08_board_roundtrip K b hv

theorem C08_fen_roundtrip_observables (b : Board) (hv : b.Valid K) (hh : b.half < 2 ^ 64) (hf : b.full < 2 ^ 64) :
    ∃ b', Board.ofFen K b.asFen = .ok b' ∧ b' = b ∧ b'.absPos = b.absPos ∧ b'.getStatus = b.getStatus ∧
      b'.asFen = b.asFen :=
  ⟨b, C08_fen_roundtrip K b hv hh hf, rfl, rfl, rfl, rfl⟩

theorem C08_asFen_fields (b : Board) : splitOn ' ' b.asFen =
    [placement b.toBuilder.pieces, stmText b.stm, castlesText (b.rights .white) (b.rights .black),
      epText b.ep, natStr b.half, natStr b.full] :=
  C08.split_printFen b.toBuilder

theorem C08_asFen_fields_abs (b : Board) (hc : b.Cons) : splitOn ' ' b.asFen =
    [placement b.abs, stmText b.stm, castlesText (b.rights .white) (b.rights .black),
      epText b.ep, natStr b.half, natStr b.full] := by
  rw [C08_asFen_fields, toBuilder_pieces hc]

def pieceList (g : Sq → Option Piece) : List (Sq × Piece) :=
  allSq.filterMap (fun s => (g s).map (fun p => (s, p)))

theorem foldSet_filterMap (g : Sq → Option Piece) (l : List Sq) (f0 : Sq → Option Piece) :
    (l.filterMap (fun s => (g s).map (fun p => (s, p)))).foldl
        (fun f (sp : Sq × Piece) => setFn f sp.1 (some sp.2)) f0 =
      fun s => if s ∈ l ∧ (g s).isSome then g s else f0 s := by
  -- the squares of `l` are written in turn; a later write to the same square would write the same man
  induction l generalizing f0 with
  | nil => simp
  | cons x xs ih =>
    cases hx : g x with
    | none =>
      rw [List.filterMap_cons_none (by simp [hx]), ih]
      funext s
      by_cases hs : s = x
      · subst hs; simp [hx]
      · simp [hs]
    | some p =>
      rw [List.filterMap_cons_some (b := (x, p)) (by simp [hx]), List.foldl_cons, ih]
      funext s
      by_cases hs : s = x
      · subst hs; simp [hx, setFn]
      · simp [hs, setFn]

theorem setup_pieces (g : Sq → Option Piece) :
    (pieceList g).foldl (fun f (sp : Sq × Piece) => setFn f sp.1 (some sp.2)) (fun _ => none) = g := by
  unfold pieceList
  rw [foldSet_filterMap]
  funext s
  have : s ∈ allSq := by simp [allSq, List.mem_finRange]
  cases h : g s <;> simp [this]

theorem setupBuilder_eq (b : Board) (hc : b.Cons) :
    Board.setupBuilder (pieceList b.abs) b.stm (b.rights .white) (b.rights .black) b.ep b.half b.full = b.toBuilder := by
  refine Builder.ext' ?_ rfl ?_ rfl rfl rfl
  · show (pieceList b.abs).foldl (fun f (sp : Sq × Piece) => setFn f sp.1 (some sp.2)) (fun _ => none) = _
    rw [setup_pieces, toBuilder_pieces hc]
  · funext c; cases c <;> rfl

/-- **C08 (piece-list path).**  Setting the position of `b` up from its piece list gives `b` itself -/
theorem C08_setup_roundtrip (b : Board) (hv : b.Valid K) :
    Board.ofBuilder K (Board.setupBuilder
      (allSq.filterMap (fun s => (b.abs s).map (fun p => (s, p)))) b.stm (b.rights .white) (b.rights .black)
      b.ep b.half b.full) = .ok b := by
  show Board.ofBuilder K (Board.setupBuilder (pieceList b.abs) _ _ _ _ _ _) = _
  rw [setupBuilder_eq b hv.cons]
  exact C08_board_roundtrip K b hv

/-! ### the hypotheses are satisfiable: the board constructed from `C09.sample` -/
example : ∃ b : Board, b.Valid K ∧ b.half < 2 ^ 64 ∧ b.full < 2 ^ 64 ∧ Board.ofFen K b.asFen = .ok b := by
  obtain ⟨b, hb⟩ := C09_complete K _ C09.sample_valid
  obtain ⟨hv, hp⟩ := C09_sound K _ b hb
  have h1 : b.half = 0 := congrArg Spec.Pos.half hp
  have h2 : b.full = 1 := congrArg Spec.Pos.full hp
  exact ⟨b, hv, by rw [h1]; decide, by rw [h2]; decide, C08_fen_roundtrip K b hv (by rw [h1]; decide) (by rw [h2]; decide)⟩

def recordOfPos (p : Spec.Pos) : FenRecord :=
  { placement := p.board, stm := p.stm,
    castleK := (p.rights .white).k, castleQ := (p.rights .white).q,
    castlek := (p.rights .black).k, castleq := (p.rights .black).q,
    ep := p.ep, half := p.half, full := p.full }

/-- **C08 (boards).**  `as_fen` of a consistent board is the standard FEN of its observable state: placement
`b.abs`, side to move, the four castling rights, en-passant square and both clocks. -/
theorem C08_asFen_standard (b : Board) (hc : b.Cons) : FenSpec.read b.asFen = some (recordOfPos b.absPos) := by
  unfold Board.asFen
  rw [C08_standard, ← toBuilder_toPos hc]
  rfl

end Chess

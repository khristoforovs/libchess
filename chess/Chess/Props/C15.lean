import Chess.Lemmas.Pgn
import Chess.Model.PgnRegex
import Chess.Props.C14
import Chess.Props.C06
import Chess.Props.C11
import Chess.Lemmas.Status
/-! # C15 — PGN export followed by import is the identity on played games

Property text: "for every game played from the standard initial position, whether it has no moves yet, is in progress,
or was finished by checkmate, stalemate, any draw or a resignation, importing the exported PGN reproduces the same
sequence of moves and positions, the same status (a merely pending draw offer excepted) and the same result tag".

Against the importer as the library has it — the `regex` tokenizers and the tag map — the property is `C15_roundtrip_regex`
(`Props/C15Regex.lean`) and `C15_tags_roundtrip` (`Props/C15Tags.lean`).  `C15_roundtrip` in this file is the same statement
for the model's hand-written scanner `Game.ofPgnMoves`, applied to the moves section `Game.movesText g` of the export.  Both
importers are one function, `Game.importOf` (the replay loop, then the tail of `from_pgn`), of their move tokens and first
result word.

The replay loop is read as a relation, `TokenPlay`: one generated legal move per token, the token being its printed text.
The loop is sound for any game (`replaySan_tokenPlay`), and complete from a valid position (`TokenPlay.replay_valid`), where
C14 injectivity and `getLegalMoves_nodup` leave each token exactly one candidate.  Every game reachable by accepted actions is
its move list played out, followed by at most one concluding non-move episode, refused offers leaving no trace (`Ending`,
`played_normal_form`); the tail of the importer rebuilds that episode from the result word (`Ending.tail_agrees`).

Hypotheses: start position `Valid`, and no recorded move promotes to a pawn — `Board.isLegalMove` accepts such a move value
although `getLegalMoves` never generates it (`PieceMove::new` rejects it in the Rust), and its text `e8=P` is not in
the importer's SAN map. -/
namespace Chess
open Chess.Game Chess.C13 Board

variable (K : Keys)

def Game.pgnTags (g : Game) : Str :=
  (defaultTags ++ [("Result".toList, g.result)]).foldl
    (fun acc kv => acc ++ ['['] ++ kv.1 ++ " \"".toList ++ kv.2 ++ "\"]\n".toList) []

def Game.movesText (g : Game) : Str :=
  joinWith ['\n'] (wrapWords 85 ((splitOn ' ' g.history.render).filter (fun w => !w.isEmpty))) ++ [' '] ++ g.result

theorem asPgn_eq (g : Game) : g.asPgn = g.pgnTags ++ ['\n'] ++ g.movesText := by
  simp only [Game.asPgn, Game.pgnTags, Game.movesText, List.append_assoc]

/-- the candidates of one token in the SAN map of `from_pgn` -/
def Game.sanCands (g : Game) (tok : Str) : List Move :=
  (g.position.getLegalMoves K).filterMap fun m =>
    match g.position.moveProps K m with
    | .ok mp => if sanText m mp = tok then some m else none
    | .error _ => none

theorem replaySan_eq (g : Game) (tok : Str) (rest : List Str) :
    replaySan K g (tok :: rest) =
      match (sanCands K g tok).getLast? with
      | none => .error .invalidPgn
      | some m => (g.act K (.move m)).bind fun g' => replaySan K g' rest := by
  rw [replaySan]
  show (match (sanCands K g tok).getLast? with | none => _ | some m => _) = _
  cases (sanCands K g tok).getLast? with
  | none => rfl
  | some m =>
    simp only
    cases g.act K (.move m) <;> rfl

theorem mem_sanCands {g : Game} {tok : Str} {m : Move} : m ∈ sanCands K g tok ↔
    m ∈ g.position.getLegalMoves K ∧ ∃ mp, g.position.moveProps K m = .ok mp ∧ sanText m mp = tok := by
  unfold sanCands
  rw [List.mem_filterMap]
  constructor
  · rintro ⟨x, hx, hfx⟩
    split at hfx
    · next mp hmp =>
      split at hfx
      · next ht => cases hfx; exact ⟨hx, mp, hmp, ht⟩
      · cases hfx
    · cases hfx
  · rintro ⟨hm, mp, hmp, ht⟩
    exact ⟨m, hm, by simp only [hmp, ht, if_true]⟩

theorem sanCands_nodup (g : Game) (tok : Str) : (sanCands K g tok).Nodup := by
  refine (getLegalMoves_nodup K g.position).filterMap _ fun a a' hne b hb b' hb' => ?_
  have key : ∀ x y : Move, (match g.position.moveProps K x with
      | .ok mp => if sanText x mp = tok then some x else none
      | .error _ => none) = some y → y = x := by
    intro x y h
    split at h
    · split at h
      · exact (Option.some.inj h).symm
      · cases h
    · cases h
  rw [key a b hb, key a' b' hb']; exact hne

theorem C15Import.sanCands_of_legal (g : Game) (hv : g.position.Valid K) (m : Move) (mp : MoveProps)
    (hm : m ∈ g.position.getLegalMoves K) (hp : g.position.moveProps K m = .ok mp) :
    sanCands K g (sanText m mp) = [m] :=
  eq_singleton_of_nodup (sanCands_nodup K g _) ((mem_sanCands K).2 ⟨hm, mp, hp, rfl⟩) fun x hx => by
    obtain ⟨_, mp', hp', ht⟩ := (mem_sanCands K).1 hx
    exact C14_injective_valid K g.position hv x m mp' mp hp' hp ht

def Game.playMoves (g : Game) : List Move → Except Err Game
  | [] => .ok g
  | m :: ms => match g.act K (.move m) with | .error e => .error e | .ok g' => Game.playMoves g' ms

theorem playMoves_nil (g : Game) : Game.playMoves K g [] = .ok g := rfl
theorem playMoves_cons (g : Game) (m : Move) (ms : List Move) :
    Game.playMoves K g (m :: ms) =
      match g.act K (.move m) with | .error e => .error e | .ok g' => Game.playMoves K g' ms := rfl

theorem playMoves_cons_ok {g gEnd : Game} {m : Move} {ms : List Move} (h : Game.playMoves K g (m :: ms) = .ok gEnd) :
    ∃ g1, g.act K (.move m) = .ok g1 ∧ Game.playMoves K g1 ms = .ok gEnd := by
  rw [playMoves_cons] at h
  cases ha : g.act K (.move m) with
  | error e => rw [ha] at h; cases h
  | ok g1 => rw [ha] at h; exact ⟨g1, rfl, h⟩

theorem playMoves_append (g : Game) (ms ns : List Move) :
    Game.playMoves K g (ms ++ ns) =
      match Game.playMoves K g ms with | .error e => .error e | .ok g' => Game.playMoves K g' ns := by
  induction ms generalizing g with
  | nil => rfl
  | cons m ms ih =>
    rw [List.cons_append, playMoves_cons, playMoves_cons]
    cases g.act K (.move m) with
    | error e => rfl
    | ok g1 => exact ih g1

theorem not_pawnPromo {m : Move} (h : m.promotesToPawn = false) : ∀ pt s d, m ≠ .piece pt s d (some .pawn) := by
  intro pt s d e; subst e; cases h

/-- statuses a move (or the construction) can produce -/
def boardStatus : GStatus → Bool
  | .drawOffered _ | .resigned _ | .drawAccepted => false
  | _ => true

theorem boardStatus_not_offered {s : GStatus} (h : boardStatus s = true) : ¬ ∃ c, s = .drawOffered c := by
  rintro ⟨c, rfl⟩; cases h

theorem act_move_boardStatus (g g' : Game) (m : Move) (h : g.act K (.move m) = .ok g') : boardStatus g'.status = true := by
  rw [(C11_status_after_move K g g' m h).2]
  cases g'.position.getStatus <;> try rfl
  dsimp only
  split <;> rfl

theorem ofBoard_boardStatus (b : Board) : boardStatus (ofBoard b).status = true := by
  rw [C12.initial_status]; cases b.getStatus <;> rfl

theorem playMoves_inv {g gEnd : Game} {ms : List Move} (h : Game.playMoves K g ms = .ok gEnd) :
    (boardStatus g.status = true → boardStatus gEnd.status = true) ∧ (C12.TagOK g → C12.TagOK gEnd) := by
  induction ms generalizing g with
  | nil => cases h; exact ⟨id, id⟩
  | cons m ms ih =>
    obtain ⟨g1, ha, h1⟩ := playMoves_cons_ok K h
    obtain ⟨i1, i2⟩ := ih h1
    exact ⟨fun _ => i1 (act_move_boardStatus K g g1 m ha), fun t => i2 (act_tag K ha t)⟩

/-- `TokenPlay K g toks ms g₁`: the token list `toks` is played from `g` by the move list `ms`, reaching `g₁`. -/
inductive TokenPlay : Game → List Str → List Move → Game → Prop
  | nil (g : Game) : TokenPlay g [] [] g
  | cons {g g' g₁ : Game} {tok : Str} {toks : List Str} {m : Move} {ms : List Move} (mp : MoveProps) :
      m ∈ g.position.getLegalMoves K → g.position.moveProps K m = .ok mp → sanText m mp = tok →
      g.act K (.move m) = .ok g' → TokenPlay g' toks ms g₁ → TokenPlay g (tok :: toks) (m :: ms) g₁

section
variable {K}

theorem TokenPlay.length {g g₁ : Game} {toks : List Str} {ms : List Move} (h : TokenPlay K g toks ms g₁) :
    ms.length = toks.length := by
  induction h with
  | nil g => rfl
  | cons mp _ _ _ _ _ ih => simp [ih]

theorem TokenPlay.generated {g g₁ : Game} {toks : List Str} {ms : List Move} (h : TokenPlay K g toks ms g₁) :
    ∀ m ∈ ms, ∃ b : Board, m ∈ b.getLegalMoves K := by
  induction h with
  | nil g => intro m hm; cases hm
  | cons mp hm _ _ _ _ ih =>
    intro x hx
    rcases List.mem_cons.1 hx with rfl | hx
    · exact ⟨_, hm⟩
    · exact ih x hx

theorem TokenPlay.playMoves {g g₁ : Game} {toks : List Str} {ms : List Move} (h : TokenPlay K g toks ms g₁) :
    Game.playMoves K g ms = .ok g₁ := by
  induction h with
  | nil g => rfl
  | cons mp _ _ _ ha _ ih => rw [playMoves_cons, ha]; exact ih

theorem TokenPlay.history {g g₁ : Game} {toks : List Str} {ms : List Move} (h : TokenPlay K g toks ms g₁) :
    ∃ ps qs, ps.length = toks.length ∧ qs.length = toks.length ∧
      g₁.history.positions = g.history.positions ++ qs ∧ g₁.history.moves = g.history.moves ++ ms ∧
      g₁.history.props = g.history.props ++ ps ∧ List.zipWith sanText ms ps = toks := by
  induction h with
  | nil g => exact ⟨[], [], rfl, rfl, by simp, by simp, by simp, rfl⟩
  | @cons g g' g₁ tok toks m ms mp _ hp ht ha _ ih =>
    obtain ⟨ps, qs, l1, l2, e1, e2, e3, e4⟩ := ih
    obtain ⟨-, -, rfl⟩ := act_move_ok K ha
    obtain ⟨-, rfl⟩ := (Board.moveProps_ok_iff K).1 hp
    refine ⟨g.position.stdProps K m :: ps, g.position.makeMoveUnchecked K m :: qs, by simp [l1], by simp [l2], ?_, ?_, ?_, ?_⟩
    · rw [e1, moved_history]; simp
    · rw [e2, moved_history]; simp
    · rw [e3, moved_history]; simp
    · rw [List.zipWith_cons_cons, e4, ht]

theorem act_move_valid {g g' : Game} {m : Move} (hv : g.position.Valid K) (hm : m ∈ g.position.getLegalMoves K)
    (ha : g.act K (.move m) = .ok g') : g'.position.Valid K := by
  obtain ⟨-, -, rfl⟩ := act_move_ok K ha
  rw [moved_position]
  exact C06_step (K := K) _ hv m ((hv.mem_getLegalMoves_iff m).1 hm)

theorem TokenPlay.replay_valid {g g₁ : Game} {toks : List Str} {ms : List Move} (h : TokenPlay K g toks ms g₁)
    (hv : g.position.Valid K) : replaySan K g toks = .ok g₁ ∧ g₁.position.Valid K := by
  induction h with
  | nil g => exact ⟨rfl, hv⟩
  | @cons g g' g₁ tok toks m ms mp hm hp ht ha _ ih =>
    subst ht
    rw [replaySan_eq, C15Import.sanCands_of_legal K g hv m mp hm hp]
    simp only [List.getLast?_singleton, ha]
    exact ih (act_move_valid hv hm ha)

theorem playMoves_tokenPlay {g gEnd : Game} {ms : List Move} (hv : g.position.Valid K)
    (hpp : ∀ m ∈ ms, m.promotesToPawn = false) (h : Game.playMoves K g ms = .ok gEnd) :
    ∃ toks, TokenPlay K g toks ms gEnd := by
  induction ms generalizing g with
  | nil => cases h; exact ⟨[], .nil _⟩
  | cons m ms ih =>
    obtain ⟨g1, ha, h1⟩ := playMoves_cons_ok K h
    have hl := (act_move_ok K ha).2.1
    have hm := (hv.isLegalMove_iff m (not_pawnPromo (hpp m List.mem_cons_self))).1 hl
    obtain ⟨toks, ht⟩ := ih (act_move_valid hv hm ha) (fun x hx => hpp x (List.mem_cons_of_mem _ hx)) h1
    exact ⟨_, .cons _ hm (Board.moveProps_legal K hl) rfl ha ht⟩

end

theorem replaySan_tokenPlay (toks : List Str) : ∀ (g g₁ : Game), replaySan K g toks = .ok g₁ →
    ∃ ms, TokenPlay K g toks ms g₁ := by
  induction toks with
  | nil => intro g g₁ h; cases h; exact ⟨[], .nil g⟩
  | cons tok rest ih =>
    intro g g₁ h
    rw [replaySan_eq] at h
    cases hc : (sanCands K g tok).getLast? with
    | none => rw [hc] at h; cases h
    | some m =>
      simp only [hc] at h
      cases ha : g.act K (.move m) with
      | error e => simp only [ha] at h; cases h
      | ok g' =>
        simp only [ha] at h
        obtain ⟨hm, mp, hp, ht⟩ := (mem_sanCands K).1 (List.mem_of_getLast? hc)
        obtain ⟨ms, hms⟩ := ih g' g₁ h
        exact ⟨m :: ms, .cons mp hm hp ht ha hms⟩

theorem replaySan_chain (ms : List Move) : ∀ (g gEnd : Game), g.position.Valid K →
    (∀ m ∈ ms, m.promotesToPawn = false) → Game.playMoves K g ms = .ok gEnd →
    ∃ ps qs, ps.length = ms.length ∧ gEnd.history.moves = g.history.moves ++ ms ∧
      gEnd.history.props = g.history.props ++ ps ∧ gEnd.history.positions = g.history.positions ++ qs ∧
      gEnd.position.Valid K ∧ replaySan K g (List.zipWith sanText ms ps) = .ok gEnd := by
  intro g gEnd hv hpp h
  obtain ⟨toks, hp⟩ := playMoves_tokenPlay hv hpp h
  obtain ⟨ps, qs, l1, _, e1, e2, e3, e4⟩ := hp.history
  obtain ⟨hr, hvE⟩ := hp.replay_valid hv
  exact ⟨ps, qs, by rw [l1, hp.length], e2, e3, e1, hvE, by rw [e4]; exact hr⟩

theorem accepts_offer {s : GStatus} {c : Color} : accepts s (.offerDraw c) = true ↔ s = .ongoing := by
  cases s <;> simp [accepts]
theorem accepts_accept {s : GStatus} : accepts s .acceptDraw = true ↔ ∃ c, s = .drawOffered c := by
  cases s <;> simp [accepts]
theorem accepts_decline {s : GStatus} : accepts s .declineDraw = true ↔ ∃ c, s = .drawOffered c := by
  cases s <;> simp [accepts]
theorem accepts_resign {s : GStatus} {d : Color} :
    accepts s (.resign d) = true ↔ s = .ongoing ∨ ∃ c, s = .drawOffered c := by
  cases s <;> simp [accepts]

theorem Game.ext' {g h : Game} (e1 : g.position = h.position) (e2 : g.history = h.history) (e3 : g.counter = h.counter)
    (e4 : g.status = h.status) (e5 : g.result = h.result) : g = h := by
  cases g; cases h; simp_all

theorem offer_decline_id (g : Game) (c : Color) (hs : g.status = .ongoing) (ht : C12.TagOK g) :
    (g.updateStatus (some (.offerDraw c))).updateStatus (some .declineDraw) = g := by
  apply Game.ext'
  · simp
  · simp
  · simp
  · simp [hs]
  · rw [updateStatus_tag _ _ (updateStatus_tag _ _ ht), updateStatus_status, ht, hs]

theorem mem_zipWith_sanText {ms : List Move} {ps : List MoveProps} {s : Str} (h : s ∈ List.zipWith sanText ms ps) :
    ∃ m ∈ ms, ∃ p, s = sanText m p := by
  obtain ⟨i, hi, rfl⟩ := List.mem_iff_getElem.1 h
  rw [List.getElem_zipWith]
  exact ⟨_, List.getElem_mem _, _, rfl⟩

theorem zipWith_sanWord (ms : List Move) (ps : List MoveProps) : ∀ s ∈ List.zipWith sanText ms ps, SanWord s := by
  intro s hs
  obtain ⟨m, _, p, rfl⟩ := mem_zipWith_sanText hs
  exact sanText_sanWord m p

theorem resultTag_word (s : GStatus) : IsWord (resultTagOf s) ∧ isResultWord (resultTagOf s) = true := by
  have := C12.tag_values s
  simp only [List.mem_cons, List.not_mem_nil, or_false] at this
  rcases this with h | h | h | h <;> rw [h] <;> exact ⟨⟨by decide, by decide, by decide⟩, by decide⟩

theorem movesText_tokens (g : Game) :
    g.movesText = joinWith ['\n'] (wrapWords 85 (expectedTokens (blackStarts g.history)
      (List.zipWith sanText g.history.moves g.history.props))) ++ ' ' :: g.result := by
  unfold Game.movesText
  rw [C13_render_tokens', List.append_assoc]; rfl

theorem Additive.movesText {α} {F : Str → List α} (hF : Additive F) (g : Game)
    (h1 : F "1.".toList = []) (h2 : F "...".toList = [])
    (hn : ∀ s ∈ List.zipWith sanText g.history.moves g.history.props, ∀ n, F (natStr n ++ '.' :: s) = F s) :
    F g.movesText = (List.zipWith sanText g.history.moves g.history.props).flatMap F ++ F g.result := by
  rw [movesText_tokens]
  exact hF.moveSection 85 _ _ _ h1 h2 hn

theorem scanMoves_movesText (g : Game) (ht : C12.TagOK g) :
    scanMoves g.movesText = List.zipWith sanText g.history.moves g.history.props := by
  rw [movesText_tokens, ht]
  exact scanMoves_section 85 _ _ (zipWith_sanWord _ _) _ (resultTag_word _).1 (resultTag_word _).2

/-- the result word an export ends with, as the importers see it: `?` is none -/
def resWord (r : Str) : Option Str :=
  if r = "1-0".toList ∨ r = "0-1".toList ∨ r = "1/2-1/2".toList then some r else none

theorem resWord_tag (s : GStatus) : resWord (resultTagOf s) =
    match s with
    | .ongoing | .drawOffered _ => none
    | s => some (resultTagOf s) := by
  cases s <;> first | rfl | (rename_i c; cases c <;> rfl)

theorem scanResult_movesText (g : Game) (ht : C12.TagOK g) : scanResult g.movesText = resWord g.result := by
  rw [scanResult_eq_head, movesText_tokens, decidedWords_section 85 _ _ (zipWith_sanWord _ _), ht]
  have := C12.tag_values g.status
  simp only [List.mem_cons, List.not_mem_nil, or_false] at this
  rcases this with h | h | h | h <;> rw [h] <;> decide

/-- `g` is `g1` (a game as its last move left it) followed by at most one concluding non-move episode -/
inductive Ending (g1 : Game) : Game → Prop
  | none : Ending g1 g1
  | offer (c : Color) (g : Game) : g1.act K (.offerDraw c) = .ok g → Ending g1 g
  | resign (d : Color) (g : Game) : g1.act K (.resign d) = .ok g → Ending g1 g
  | agreed (c : Color) (g2 g : Game) : g1.act K (.offerDraw c) = .ok g2 → g2.act K .acceptDraw = .ok g → Ending g1 g
  | offerResign (c d : Color) (g2 g : Game) :
      g1.act K (.offerDraw c) = .ok g2 → g2.act K (.resign d) = .ok g → Ending g1 g

def importedStatus : GStatus → GStatus
  | .drawOffered _ => .ongoing
  | s => s

/-- the imported game `g'` reproduces `g` — a merely pending draw offer excepted, which is imported as an ongoing game -/
def Agrees (g' g : Game) : Prop :=
  g'.position = g.position ∧ g'.history = g.history ∧ g'.counter = g.counter ∧ g'.result = g.result ∧
  g'.status = importedStatus g.status

theorem importedStatus_of_not_offered {s : GStatus} (h : ∀ c, s ≠ .drawOffered c) : importedStatus s = s := by
  cases s <;> first | rfl | exact absurd rfl (h _)

theorem Agrees.refl (g : Game) (h : ∀ c, g.status ≠ .drawOffered c) : Agrees g g :=
  ⟨rfl, rfl, rfl, rfl, (importedStatus_of_not_offered h).symm⟩

theorem Agrees.history {g' g : Game} (h : Agrees g' g) : g'.history = g.history := h.2.1
theorem Agrees.result {g' g : Game} (h : Agrees g' g) : g'.result = g.result := h.2.2.2.1

theorem Agrees.status {g' g : Game} (h : Agrees g' g) :
    g'.status = g.status ∨ ∃ c, g.status = .drawOffered c ∧ g'.status = .ongoing := by
  have := h.2.2.2.2
  cases hs : g.status <;> rw [hs] at this <;> first | exact Or.inl this | exact Or.inr ⟨_, rfl, this⟩

theorem Agrees.eq {g' g : Game} (h : Agrees g' g) (hn : ∀ c, g.status ≠ .drawOffered c) : g' = g :=
  Game.ext' h.1 h.2.1 h.2.2.1 (h.2.2.2.2.trans (importedStatus_of_not_offered hn)) h.2.2.2.1

/-- the tail of `from_pgn` as a total function of the replayed game and the first result word: it never fails, because
every action it takes is offered in a status that accepts it -/
def Game.tail (g : Game) (res : Option Str) : Game :=
  if g.status = .ongoing then
    match res with
    | none => g
    | some r =>
      if r = "1-0".toList then g.updateStatus (some (.resign .black))
      else if r = "0-1".toList then g.updateStatus (some (.resign .white))
      else if r = "1/2-1/2".toList then (g.updateStatus (some (.offerDraw .white))).updateStatus (some .acceptDraw)
      else g
  else g

theorem tail_of_not_ongoing {g : Game} (h : g.status ≠ .ongoing) (res : Option Str) : g.tail res = g := if_neg h

theorem tail_none (g : Game) : g.tail none = g := by
  unfold Game.tail
  split <;> rfl

theorem tail_whiteWins {g : Game} (h : g.status = .ongoing) :
    g.tail (some "1-0".toList) = g.updateStatus (some (.resign .black)) := by
  unfold Game.tail
  rw [if_pos h]
  rfl

theorem tail_blackWins {g : Game} (h : g.status = .ongoing) :
    g.tail (some "0-1".toList) = g.updateStatus (some (.resign .white)) := by
  unfold Game.tail
  rw [if_pos h]
  rfl

theorem tail_drawn {g : Game} (h : g.status = .ongoing) :
    g.tail (some "1/2-1/2".toList) = (g.updateStatus (some (.offerDraw .white))).updateStatus (some .acceptDraw) := by
  unfold Game.tail
  rw [if_pos h]
  rfl

/-- the `if … then … else` of the importers after the replay, with the `act`s evaluated -/
theorem tail_eq (g : Game) (res : Option Str) :
    (if g.status = .ongoing then
      match res with
      | some r =>
        if r = "1-0".toList then g.act K (.resign .black)
        else if r = "0-1".toList then g.act K (.resign .white)
        else if r = "1/2-1/2".toList then
          (match g.act K (.offerDraw .white) with | .ok g1 => g1.act K .acceptDraw | .error e => .error e)
        else .ok g
      | none => .ok g
    else .ok g) = .ok (g.tail res) := by
  unfold Game.tail
  by_cases hs : g.status = .ongoing
  · rw [if_pos hs, if_pos hs]
    cases res with
    | none => rfl
    | some r =>
      have hr : ∀ d, g.act K (.resign d) = .ok (g.updateStatus (some (.resign d))) :=
        fun d => act_accepted K (by rw [hs]; rfl)
      have ho : g.act K (.offerDraw .white) = .ok (g.updateStatus (some (.offerDraw .white))) :=
        act_accepted K (by rw [hs]; rfl)
      have ha : (g.updateStatus (some (.offerDraw .white))).act K .acceptDraw =
          .ok ((g.updateStatus (some (.offerDraw .white))).updateStatus (some .acceptDraw)) :=
        act_accepted K (by rw [updateStatus_status]; rfl)
      simp only [hr, ho, ha]
      split
      · rfl
      · split
        · rfl
        · split <;> rfl
  · rw [if_neg hs, if_neg hs]

theorem tail_table (g₁ : Game) (res : Option Str) :
    (g₁.status ≠ .ongoing → g₁.tail res = g₁) ∧
    (g₁.status = .ongoing →
      (res = none → g₁.tail res = g₁) ∧
      (res = some "1-0".toList →
        g₁.tail res = g₁.updateStatus (some (.resign .black)) ∧ (g₁.tail res).status = .resigned .black) ∧
      (res = some "0-1".toList →
        g₁.tail res = g₁.updateStatus (some (.resign .white)) ∧ (g₁.tail res).status = .resigned .white) ∧
      (res = some "1/2-1/2".toList →
        g₁.tail res = (g₁.updateStatus (some (.offerDraw .white))).updateStatus (some .acceptDraw) ∧
          (g₁.tail res).status = .drawAccepted)) := by
  refine ⟨fun hn => tail_of_not_ongoing hn res, fun hs => ⟨?_, ?_, ?_, ?_⟩⟩ <;> rintro rfl
  · exact tail_none g₁
  · exact ⟨tail_whiteWins hs, by rw [tail_whiteWins hs, updateStatus_status]⟩
  · exact ⟨tail_blackWins hs, by rw [tail_blackWins hs, updateStatus_status]⟩
  · exact ⟨tail_drawn hs, by rw [tail_drawn hs, updateStatus_status]⟩

theorem tail_frame (g : Game) (res : Option Str) :
    (g.tail res).position = g.position ∧ (g.tail res).history = g.history ∧ (g.tail res).counter = g.counter := by
  unfold Game.tail
  repeat' split
  all_goals simp

/-- `from_pgn` after the split, as a function of the token list and of the first result word only -/
def Game.importOf (start : Game) (toks : List Str) (res : Option Str) : Except Err Game :=
  (replaySan K start toks).bind fun g => .ok (g.tail res)

theorem ofPgnRegex_of_section {start : Game} {pgn sec : Str} (h : PgnRegex.regexMovesSection pgn = some sec) :
    Game.ofPgnRegex K start pgn = Game.importOf K start (PgnRegex.findMoves sec) (PgnRegex.findResult sec) := by
  unfold Game.ofPgnRegex Game.importOf
  rw [h]
  dsimp only
  cases replaySan K start (PgnRegex.findMoves sec) with
  | error e => rfl
  | ok g => exact tail_eq K g _

theorem ofPgnRegex_no_section {start : Game} {pgn : Str} (h : PgnRegex.regexMovesSection pgn = none) :
    Game.ofPgnRegex K start pgn = .error .invalidPgn := by
  unfold Game.ofPgnRegex
  rw [h]

theorem scanResult_values {t r : Str} (h : scanResult t = some r) :
    r = "1-0".toList ∨ r = "0-1".toList ∨ r = "1/2-1/2".toList := by
  have := List.find?_some h
  simp only [Bool.or_eq_true, decide_eq_true_eq] at this
  rcases this with (h | h) | h
  · exact Or.inl h
  · exact Or.inr (Or.inl h)
  · exact Or.inr (Or.inr h)

theorem ofPgnMoves_eq_importOf (start : Game) (t : Str) :
    Game.ofPgnMoves K start t = Game.importOf K start (scanMoves t) (scanResult t) := by
  unfold Game.ofPgnMoves Game.importOf
  cases replaySan K start (scanMoves t) with
  | error e => rfl
  | ok g =>
    refine Eq.trans ?_ (tail_eq K g (scanResult t))
    cases hr : scanResult t with
    | none => rfl
    -- `scanResult` reports one of three words only, so the tail's fourth branch is dead
    | some r => rcases scanResult_values hr with rfl | rfl | rfl <;> rfl

theorem resign_ongoing {g1 g : Game} {d : Color} (hb1 : boardStatus g1.status = true)
    (ha : g1.act K (.resign d) = .ok g) : g1.status = .ongoing := by
  rcases accepts_resign.1 (act_nonmove_ok K (by simp) ha).1 with h | h
  · exact h
  · exact absurd h (boardStatus_not_offered hb1)

theorem Ending.frame {g1 g : Game} (h : Ending K g1 g) :
    g.position = g1.position ∧ g.history = g1.history ∧ g.counter = g1.counter := by
  cases h with
  | none => exact ⟨rfl, rfl, rfl⟩
  | offer _ _ ha | resign _ _ ha => exact act_nonmove_frame K (by simp) ha
  | agreed _ _ _ ha ha2 | offerResign _ _ _ _ ha ha2 =>
    obtain ⟨p, h, c⟩ := act_nonmove_frame K (by simp) ha
    obtain ⟨p2, h2, c2⟩ := act_nonmove_frame K (by simp) ha2
    exact ⟨p2.trans p, h2.trans h, c2.trans c⟩

theorem Ending.history {g1 g : Game} (h : Ending K g1 g) : g.history = g1.history := (h.frame K).2.1

theorem Ending.tag {g1 g : Game} (h : Ending K g1 g) (ht1 : C12.TagOK g1) : C12.TagOK g := by
  cases h with
  | none => exact ht1
  | offer _ _ ha | resign _ _ ha => exact act_tag K ha ht1
  | agreed _ _ _ ha ha2 | offerResign _ _ _ _ ha ha2 => exact act_tag K ha2 (act_tag K ha ht1)

theorem tail_tag {g : Game} (h : C12.TagOK g) (res : Option Str) : C12.TagOK (g.tail res) := by
  unfold Game.tail
  repeat' split
  all_goals simp [updateStatus_tag, h]

theorem resultTagOf_importedStatus (s : GStatus) : resultTagOf (importedStatus s) = resultTagOf s := by
  cases s <;> rfl

theorem Agrees.of_tag {g' g : Game} (hp : g'.position = g.position) (hh : g'.history = g.history)
    (hc : g'.counter = g.counter) (ht' : C12.TagOK g') (ht : C12.TagOK g) (hs : g'.status = importedStatus g.status) :
    Agrees g' g :=
  ⟨hp, hh, hc, by rw [ht', ht, hs, resultTagOf_importedStatus], hs⟩

theorem Ending.tail_agrees {g1 g : Game} (he : Ending K g1 g) (ht1 : C12.TagOK g1) (hb1 : boardStatus g1.status = true) :
    Agrees (g1.tail (resWord g.result)) g := by
  have htg : C12.TagOK g := he.tag K ht1
  obtain ⟨ep, eh, ec⟩ := he.frame K
  obtain ⟨tp, th, tc⟩ := tail_frame g1 (resWord g.result)
  -- the tail touches status and tag only, both tags follow the statuses: left is the status the tail gives `g1` under the
  -- result word of `g`'s status, one case per ending
  refine Agrees.of_tag (tp.trans ep.symm) (th.trans eh.symm) (tc.trans ec.symm) (tail_tag ht1 _) htg ?_
  rw [htg, resWord_tag]
  have resigned : ∀ d, g1.status = .ongoing →
      g1.tail (some (resultTagOf (.resigned d))) = g1.updateStatus (some (.resign d)) := by
    intro d hs
    cases d
    · exact tail_blackWins hs
    · exact tail_whiteWins hs
  cases he with
  | none =>
    by_cases hs : g1.status = .ongoing
    · rw [hs, tail_none]
      exact hs
    · rw [tail_of_not_ongoing hs]
      exact (importedStatus_of_not_offered fun c e => boardStatus_not_offered hb1 ⟨c, e⟩).symm
  | offer c _ ha =>
    obtain ⟨hs, rfl⟩ := act_nonmove_ok K (by simp) ha
    rw [updateStatus_status, tail_none]
    exact accepts_offer.1 hs
  | resign d _ ha =>
    have hs := resign_ongoing K hb1 ha
    obtain ⟨-, rfl⟩ := act_nonmove_ok K (by simp) ha
    rw [updateStatus_status, resigned d hs, updateStatus_status]
    rfl
  | agreed c g2 _ ha ha2 =>
    obtain ⟨hs, rfl⟩ := act_nonmove_ok K (by simp) ha
    obtain ⟨-, rfl⟩ := act_nonmove_ok K (by simp) ha2
    rw [updateStatus_status]
    show (g1.tail (some "1/2-1/2".toList)).status = _
    rw [tail_drawn (accepts_offer.1 hs), updateStatus_status]
    rfl
  | offerResign c d g2 _ ha ha2 =>
    obtain ⟨hs, rfl⟩ := act_nonmove_ok K (by simp) ha
    obtain ⟨-, rfl⟩ := act_nonmove_ok K (by simp) ha2
    rw [updateStatus_status, resigned d (accepts_offer.1 hs), updateStatus_status]
    rfl

/-- **C15, explicit form.**  Start from any valid position, either side to move (`g0 = Game.ofBoard b0`, or more generally a game
whose history is the bare start position), play the move list `ms` (none of them the unconstructible "promotion to a
pawn"), reaching `g1`, then conclude with at most one non-move episode (`Ending`), reaching `g`.  Importing the exported
moves section of `g` into `g0` succeeds and gives a game that agrees with `g` in position, history (moves, positions,
properties), counter, result tag and status, except that a pending draw offer is imported as an ongoing game. -/
theorem C15_roundtrip_played (g0 g1 g : Game) (b0 : Board) (hv0 : g0.position.Valid K)
    (hh0 : g0.history = History.fromPosition b0)
    (ht0 : C12.TagOK g0) (hb0 : boardStatus g0.status = true)
    (ms : List Move) (hpp : ∀ m ∈ ms, m.promotesToPawn = false)
    (hplay : Game.playMoves K g0 ms = .ok g1) (he : Ending K g1 g) :
    ∃ g', ofPgnMoves K g0 g.movesText = .ok g' ∧ Agrees g' g := by
  obtain ⟨ps, qs, _, e1, e2, _, _, hr⟩ := replaySan_chain K ms g0 g1 hv0 hpp hplay
  obtain ⟨ib, it⟩ := playMoves_inv K hplay
  have htg := he.tag K (it ht0)
  rw [hh0] at e1 e2
  refine ⟨_, ?_, he.tail_agrees K (it ht0) (ib hb0)⟩
  have htoks : scanMoves g.movesText = List.zipWith sanText ms ps := by
    rw [scanMoves_movesText g htg, he.history, e1, e2]
    rfl
  rw [ofPgnMoves_eq_importOf, Game.importOf, htoks, scanResult_movesText g htg, hr]
  rfl

theorem playMoves_moves {g gEnd : Game} {ms : List Move} (h : Game.playMoves K g ms = .ok gEnd) :
    gEnd.history.moves = g.history.moves ++ ms := by
  induction ms generalizing g with
  | nil => cases h; simp
  | cons m ms ih =>
    obtain ⟨g1, ha, h1⟩ := playMoves_cons_ok K h
    obtain ⟨-, -, rfl⟩ := act_move_ok K ha
    rw [ih h1, moved_history]; simp

theorem played_normal_form (g0 : Game) (ht0 : C12.TagOK g0) (hb0 : boardStatus g0.status = true) {g : Game}
    (h : PlayedFrom K g0 g) : ∃ ms g1, Game.playMoves K g0 ms = .ok g1 ∧ Ending K g1 g := by
  induction h with
  | init => exact ⟨[], g0, rfl, .none⟩
  | @step g g' a _ ha ih =>
    obtain ⟨ms, g1, hplay, he⟩ := ih
    obtain ⟨ib, it⟩ := playMoves_inv K hplay
    have ht1 := it ht0
    have hb1 := ib hb0
    cases he with
    | none =>
      cases a with
      | move m =>
        refine ⟨ms ++ [m], g', ?_, .none⟩
        rw [playMoves_append, hplay]
        show Game.playMoves K g (m :: []) = _
        rw [playMoves_cons, ha]; rfl
      | offerDraw c => exact ⟨ms, g, hplay, .offer c g' ha⟩
      | resign d => exact ⟨ms, g, hplay, .resign d g' ha⟩
      | acceptDraw => exact absurd (accepts_accept.1 (act_nonmove_ok K (by simp) ha).1) (boardStatus_not_offered hb1)
      | declineDraw => exact absurd (accepts_decline.1 (act_nonmove_ok K (by simp) ha).1) (boardStatus_not_offered hb1)
    | offer c _ ha0 =>
      obtain ⟨hs, rfl⟩ := act_nonmove_ok K (by simp) ha0
      rw [accepts_offer] at hs
      cases a with
      | move m => have := (act_move_ok K ha).1; simp at this
      | offerDraw c' => have := accepts_offer.1 (act_nonmove_ok K (by simp) ha).1; simp at this
      | resign d => exact ⟨ms, g1, hplay, .offerResign c d _ g' ha0 ha⟩
      | acceptDraw => exact ⟨ms, g1, hplay, .agreed c _ g' ha0 ha⟩
      | declineDraw =>
        obtain ⟨-, rfl⟩ := act_nonmove_ok K (by simp) ha
        rw [offer_decline_id g1 c hs ht1]
        exact ⟨ms, g1, hplay, .none⟩
    | resign d _ ha0 =>
      obtain ⟨-, rfl⟩ := act_nonmove_ok K (by simp) ha0
      rw [C12.finished_rejects K _ a (by simp [C12.finished])] at ha; cases ha
    | agreed c g2 _ ha0 ha2 =>
      obtain ⟨-, rfl⟩ := act_nonmove_ok K (by simp) ha2
      rw [C12.finished_rejects K _ a (by simp [C12.finished])] at ha; cases ha
    | offerResign c d g2 _ ha0 ha2 =>
      obtain ⟨-, rfl⟩ := act_nonmove_ok K (by simp) ha2
      rw [C12.finished_rejects K _ a (by simp [C12.finished])] at ha; cases ha

theorem played_normal_form_ofBoard (b0 : Board) {g : Game} (hg : PlayedFrom K (ofBoard b0) g) :
    ∃ g1, Game.playMoves K (ofBoard b0) g.history.moves = .ok g1 ∧ Ending K g1 g := by
  obtain ⟨ms, g1, hplay, he⟩ := played_normal_form K _ (ofBoard_tag b0) (ofBoard_boardStatus b0) hg
  have hms : g.history.moves = ms := by
    rw [he.history, playMoves_moves K hplay]; simp [History.fromPosition]
  exact ⟨g1, hms ▸ hplay, he⟩

/-- **C15 (PGN round trip), either side to move first.**  Let `b0` be any valid position and `g` any game obtained from
`Game.ofBoard b0` by accepted actions, none of its recorded moves the unconstructible "promotion to a pawn".  Then importing
the moves section of the export of `g` succeeds, and the imported game `Agrees` with `g`.  When Black moves first the move
text opens with `1.` `...`, which the scanner skips. -/
theorem C15_roundtrip_either (b0 : Board) (hv : b0.Valid K) (g : Game)
    (hg : PlayedFrom K (ofBoard b0) g) (hpp : ∀ m ∈ g.history.moves, m.promotesToPawn = false) :
    ∃ g', ofPgnMoves K (ofBoard b0) g.movesText = .ok g' ∧ Agrees g' g := by
  obtain ⟨g1, hplay, he⟩ := played_normal_form_ofBoard K b0 hg
  exact C15_roundtrip_played K (ofBoard b0) g1 g b0 (by simpa using hv)
    (ofBoard_history b0) (ofBoard_tag b0) (ofBoard_boardStatus b0) _ hpp hplay he

/-- **C15 (PGN round trip), the model's scanner as importer.**  Let `b0` be a valid position with White to move (in particular the
standard initial position, see `C15_standard`) and `g` any game obtained from `Game.ofBoard b0` by accepted actions —
no moves yet, in progress, finished by checkmate, stalemate, insufficient material, the fifty-move rule, repetition,
agreement or resignation, with or without refused draw offers on the way.  Assume no recorded move is the
unconstructible "promotion to a pawn" (`PieceMove::new` rejects it).  Then importing the moves section of the export
of `g` succeeds, and the imported game `Agrees` with `g`: same current position, same history (moves, positions,
notation properties), same occurrence counter, same result tag, and the same status — except that a merely pending
draw offer is imported as an ongoing game.  (`C15_roundtrip_either` is the same without `hw`.) -/
theorem C15_roundtrip (b0 : Board) (hv : b0.Valid K) (hw : b0.stm = .white) (g : Game)
    (hg : PlayedFrom K (ofBoard b0) g) (hpp : ∀ m ∈ g.history.moves, m.promotesToPawn = false) :
    ∃ g', ofPgnMoves K (ofBoard b0) g.movesText = .ok g' ∧ Agrees g' g :=
  let _ := hw
  C15_roundtrip_either K b0 hv g hg hpp

/-- the same, clause by clause, in the words of the property -/
theorem C15_roundtrip_moves (b0 : Board) (hv : b0.Valid K) (hw : b0.stm = .white) (g : Game)
    (hg : PlayedFrom K (ofBoard b0) g) (hpp : ∀ m ∈ g.history.moves, m.promotesToPawn = false) :
    ∃ g', ofPgnMoves K (ofBoard b0) g.movesText = .ok g' ∧
      g'.history.moves = g.history.moves ∧ g'.history.positions = g.history.positions ∧ g'.result = g.result ∧
      (g'.status = g.status ∨ ∃ c, g.status = .drawOffered c ∧ g'.status = .ongoing) := by
  obtain ⟨g', h0, ha⟩ := C15_roundtrip K b0 hv hw g hg hpp
  exact ⟨g', h0, by rw [ha.history], by rw [ha.history], ha.result, ha.status⟩

/-- when no draw offer is pending — no moves yet, in progress, or finished in any way — the imported game is
*equal* to the exported one -/
theorem C15_roundtrip_exact (b0 : Board) (hv : b0.Valid K) (hw : b0.stm = .white) (g : Game)
    (hg : PlayedFrom K (ofBoard b0) g) (hpp : ∀ m ∈ g.history.moves, m.promotesToPawn = false)
    (hn : ∀ c, g.status ≠ .drawOffered c) :
    ofPgnMoves K (ofBoard b0) g.movesText = .ok g := by
  obtain ⟨g', h0, ha⟩ := C15_roundtrip K b0 hv hw g hg hpp
  rw [h0, ha.eq hn]

theorem C15_roundtrip_open (b0 : Board) (hv : b0.Valid K) (hw : b0.stm = .white) (g : Game)
    (hg : PlayedFrom K (ofBoard b0) g) (hpp : ∀ m ∈ g.history.moves, m.promotesToPawn = false)
    (hs : g.status = .ongoing) : ofPgnMoves K (ofBoard b0) g.movesText = .ok g :=
  C15_roundtrip_exact K b0 hv hw g hg hpp (by intro c; rw [hs]; exact GStatus.noConfusion)

theorem C15_roundtrip_board_result (b0 : Board) (hv : b0.Valid K) (hw : b0.stm = .white) (g : Game)
    (hg : PlayedFrom K (ofBoard b0) g) (hpp : ∀ m ∈ g.history.moves, m.promotesToPawn = false)
    (hs : (∃ c, g.status = .checkMated c) ∨ g.status = .stalemate ∨ g.status = .theoreticalDraw ∨
      g.status = .fiftyMoves ∨ g.status = .repetition) : ofPgnMoves K (ofBoard b0) g.movesText = .ok g :=
  C15_roundtrip_exact K b0 hv hw g hg hpp (by
    intro c e; rw [e] at hs
    rcases hs with ⟨_, h⟩ | h | h | h | h <;> cases h)

/-- finished by resignation (also a resignation while a draw offer was pending) -/
theorem C15_roundtrip_resigned (b0 : Board) (hv : b0.Valid K) (hw : b0.stm = .white) (g : Game)
    (hg : PlayedFrom K (ofBoard b0) g) (hpp : ∀ m ∈ g.history.moves, m.promotesToPawn = false)
    (d : Color) (hs : g.status = .resigned d) : ofPgnMoves K (ofBoard b0) g.movesText = .ok g :=
  C15_roundtrip_exact K b0 hv hw g hg hpp (by intro c; rw [hs]; exact GStatus.noConfusion)

theorem C15_roundtrip_agreed (b0 : Board) (hv : b0.Valid K) (hw : b0.stm = .white) (g : Game)
    (hg : PlayedFrom K (ofBoard b0) g) (hpp : ∀ m ∈ g.history.moves, m.promotesToPawn = false)
    (hs : g.status = .drawAccepted) : ofPgnMoves K (ofBoard b0) g.movesText = .ok g :=
  C15_roundtrip_exact K b0 hv hw g hg hpp (by intro c; rw [hs]; exact GStatus.noConfusion)

/-- a draw offer is pending: the import is the game as it was before the offer — ongoing, and making the same offer
in it gives the exported game back -/
theorem C15_roundtrip_pending (b0 : Board) (hv : b0.Valid K) (hw : b0.stm = .white) (g : Game)
    (hg : PlayedFrom K (ofBoard b0) g) (hpp : ∀ m ∈ g.history.moves, m.promotesToPawn = false)
    (c : Color) (hs : g.status = .drawOffered c) :
    ∃ g', ofPgnMoves K (ofBoard b0) g.movesText = .ok g' ∧ g'.status = .ongoing ∧ g'.act K (.offerDraw c) = .ok g := by
  obtain ⟨g', h0, h1, h2, h3, h4, h5⟩ := C15_roundtrip K b0 hv hw g hg hpp
  have hs' : g'.status = .ongoing := by rw [h5, hs]; rfl
  have ht : C12.TagOK g := (hg.reach K).inv.tag
  have ht' : C12.TagOK g' := by unfold C12.TagOK; rw [h4, hs', ht, hs]; rfl
  refine ⟨g', h0, hs', ?_⟩
  rw [act_accepted K (by rw [hs']; rfl)]
  apply congrArg
  apply Game.ext'
  · simpa using h1
  · simpa using h2
  · simpa using h3
  · simp [hs]
  · rw [updateStatus_tag _ _ ht', ht, hs]; simp

def stdBuilder : Builder :=
  { pieces := startBoard, stm := .white, rights := fun _ => .both, ep := none, half := 0, full := 1 }

theorem stdBuilder_valid : Spec.ValidPos stdBuilder.toPos = true := by decide +kernel

theorem stdBoard_exists : ∃ b0, Board.ofBuilder K stdBuilder = .ok b0 := C09_complete K _ stdBuilder_valid

theorem stdBoard_facts (b0 : Board) (h0 : Board.ofBuilder K stdBuilder = .ok b0) :
    b0.Valid K ∧ b0.stm = .white ∧ b0.absPos = stdBuilder.toPos := by
  obtain ⟨hv, habs⟩ := C09_sound K _ b0 h0
  exact ⟨hv, congrArg Spec.Pos.stm habs, habs⟩

/-- **C15 for the standard initial position**: every game played from it round-trips through PGN export/import -/
theorem C15_standard (b0 : Board) (h0 : Board.ofBuilder K stdBuilder = .ok b0) (g : Game)
    (hg : PlayedFrom K (ofBoard b0) g) (hpp : ∀ m ∈ g.history.moves, m.promotesToPawn = false) :
    ∃ g', ofPgnMoves K (ofBoard b0) g.movesText = .ok g' ∧ Agrees g' g :=
  C15_roundtrip K b0 (stdBoard_facts K b0 h0).1 (stdBoard_facts K b0 h0).2.1 g hg hpp

theorem stdBoard_e4_legal (b0 : Board) (h0 : Board.ofBuilder K stdBuilder = .ok b0) :
    Spec.legal b0.absPos (.piece .pawn 12 28 none) = true := by
  rw [(stdBoard_facts K b0 h0).2.2]; decide +kernel

theorem stdBoard_e4_isLegalMove (b0 : Board) (h0 : Board.ofBuilder K stdBuilder = .ok b0) :
    b0.isLegalMove K (.piece .pawn 12 28 none) = true :=
  have hv := (stdBoard_facts K b0 h0).1
  (hv.isLegalMove_iff _ (by intro _ _ _ e; cases e)).2 ((hv.mem_getLegalMoves_iff _).2 (stdBoard_e4_legal K b0 h0))

theorem stdGame_ongoing (b0 : Board) (h0 : Board.ofBuilder K stdBuilder = .ok b0) : (ofBoard b0).status = .ongoing := by
  obtain ⟨hv, _, habs⟩ := stdBoard_facts K b0 h0
  have hterm : b0.term = false := by
    cases h : b0.term with
    | false => rfl
    | true => have := hv.term_iff.1 h (.piece .pawn 12 28 none); rw [stdBoard_e4_legal K b0 h0] at this; cases this
  have hkw := validPos_king hv.pos .white
  have hkb := validPos_king hv.pos .black
  have hdraw : b0.isTheoreticalDraw = false := by
    rw [isTheoreticalDraw_spec hv.cons hkw hkb]
    show (Spec.cannotMate b0.absPos.board .white && Spec.cannotMate b0.absPos.board .black) = false
    rw [habs]; decide +kernel
  have hhalf : b0.half = 0 := congrArg Spec.Pos.half habs
  rw [C12.initial_status]
  unfold Board.getStatus
  simp [hterm, hdraw, hhalf]

theorem stdGame_e4 (b0 : Board) (h0 : Board.ofBuilder K stdBuilder = .ok b0) :
    ∃ g, (ofBoard b0).act K (.move (.piece .pawn 12 28 none)) = .ok g ∧ g.history.moves = [.piece .pawn 12 28 none] := by
  refine ⟨(ofBoard b0).moved K (.piece .pawn 12 28 none), ?_, ?_⟩
  · rw [act_move, if_pos (stdGame_ongoing K b0 h0), ofBoard_position, if_pos (stdBoard_e4_isLegalMove K b0 h0)]
  · simp [History.fromPosition]

/-! ### non-vacuity -/

example (b0 : Board) (h0 : Board.ofBuilder K stdBuilder = .ok b0) :
    ofPgnMoves K (ofBoard b0) (ofBoard b0).movesText = .ok (ofBoard b0) :=
  C15_roundtrip_exact K b0 (stdBoard_facts K b0 h0).1 (stdBoard_facts K b0 h0).2.1 _ .init
    (by simp [History.fromPosition]) (fun c e => boardStatus_not_offered (ofBoard_boardStatus b0) ⟨c, e⟩)

example (b0 : Board) (h0 : Board.ofBuilder K stdBuilder = .ok b0) :
    ∃ g, PlayedFrom K (ofBoard b0) g ∧ g.history.moves = [.piece .pawn 12 28 none] ∧
      (∀ m ∈ g.history.moves, m.promotesToPawn = false) ∧
      ∃ g', ofPgnMoves K (ofBoard b0) g.movesText = .ok g' ∧ Agrees g' g := by
  obtain ⟨g, hg, hm⟩ := stdGame_e4 K b0 h0
  have hpp : ∀ m ∈ g.history.moves, m.promotesToPawn = false := by
    rw [hm]; intro m h; simp only [List.mem_singleton] at h; subst h; rfl
  exact ⟨g, .step _ .init hg, hm, hpp, C15_standard K b0 h0 g (.step _ .init hg) hpp⟩

end Chess

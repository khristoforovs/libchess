import Chess.Lemmas.MakeMove
/-! C02: making a legal move produces exactly the successor position the rules define.

`Board.makeMoveUnchecked` (mirror of `make_move_mut_unchecked`) against `Spec.apply`, through the abstraction
`Board.absPos`.  Clocks are `Nat` in the model (the `usize` overflow boundary is known finding K1, `Props/C02Clock.lean`). -/
namespace Chess
open Board
variable (K : Keys)

/-! ### legality gives what the placement stage needs -/
theorem legal_moverOnSource (p : Spec.Pos) (m : Move) (hm : Spec.legal p m = true) : moverOnSource p m = true := by
  rcases m with ⟨pt, src, dst, promo⟩ | s
  · simp only [Spec.legal, Bool.and_eq_true] at hm
    exact (isColor_iff _ _ _).2 ⟨_, pseudo_src hm.1, rfl⟩
  · obtain ⟨_, hK, hR, _⟩ := castleOk_placement hm
    cases s <;>
      simp only [moverOnSource, Bool.and_eq_true, isColor_iff, homeSq_eq] <;>
      exact ⟨⟨_, hK, rfl⟩, ⟨_, hR, rfl⟩⟩

/-- General form: mask consistency and "the squares the move lifts men from hold men of the mover's colour"
are all that is needed (no legality, no `ValidPos`). -/
theorem C02_successor_of_source (b : Board) (hc : b.Cons) (m : Move) (hm : moverOnSource b.absPos m = true) :
    (b.makeMoveUnchecked K m).absPos = Spec.apply b.absPos m ∧ (b.makeMoveUnchecked K m).Cons := by
  rw [makeMoveUnchecked_eq]
  have R := hc.place K m hm
  have S := place_state K b m
  refine ⟨?_, (R.finish K m (b.isCapture m)).cons⟩
  -- the bookkeeping stage yields the fields of `apply_eq`, read on the board after the placement stage
  rw [finish_absPos, apply_eq, R.abs_eq, S.stm, S.rights, S.half, S.full, hc.isCapture]
  rfl

/-- C02: a legal move produces exactly the successor position the rules define, and the masks stay consistent. -/
theorem C02_successor (K : Keys) (b : Board) (hv : b.Valid K) (m : Move) (hm : Spec.legal b.absPos m = true) :
    (b.makeMoveUnchecked K m).absPos = Spec.apply b.absPos m ∧ (b.makeMoveUnchecked K m).Cons :=
  C02_successor_of_source K b hv.cons m (legal_moverOnSource _ _ hm)

theorem C02_pure_iff (K : Keys) (b b' : Board) (m : Move) :
    Board.makeMove K b m = .ok b' ↔ (b.isLegalMove K m = true ∧ b' = b.makeMoveUnchecked K m) := by
  unfold Board.makeMove
  split <;> simp [*, eq_comm]

/-- the non-mutating, checked form returns exactly the value the unchecked form computes.  In the functional model this only
unfolds `Board.makeMove`; that the Rust `make_move` leaves `self` untouched is observed by the correspondence run, not proved. -/
theorem C02_pure (K : Keys) (b b' : Board) (m : Move) (h : Board.makeMove K b m = .ok b') :
    b' = b.makeMoveUnchecked K m :=
  ((C02_pure_iff K b b' m).1 h).2

theorem C02_makeMove (K : Keys) (b b' : Board) (hv : b.Valid K) (m : Move) (hm : Spec.legal b.absPos m = true)
    (h : Board.makeMove K b m = .ok b') : b'.absPos = Spec.apply b.absPos m ∧ b'.Cons := by
  rw [C02_pure K b b' m h]; exact C02_successor K b hv m hm

def LegalSeq : Spec.Pos → List Move → Prop
  | _, [] => True
  | p, m :: ms => Spec.legal p m = true ∧ LegalSeq (Spec.apply p m) ms

/-- Folding legal moves commutes with the abstraction.  Only mask consistency of the starting board is needed,
because `C02_successor_of_source` re-establishes it at every step. -/
theorem C02_sequence (K : Keys) (ms : List Move) : ∀ (b : Board), b.Cons → LegalSeq b.absPos ms →
    (ms.foldl (fun b m => b.makeMoveUnchecked K m) b).absPos = ms.foldl Spec.apply b.absPos ∧
    (ms.foldl (fun b m => b.makeMoveUnchecked K m) b).Cons := by
  induction ms with
  | nil => intro b hc _; exact ⟨rfl, hc⟩
  | cons m ms ih =>
    intro b hc hl
    obtain ⟨h1, h2⟩ := C02_successor_of_source K b hc m (legal_moverOnSource _ _ hl.1)
    have := ih (b.makeMoveUnchecked K m) h2 (by rw [h1]; exact hl.2)
    simp only [List.foldl_cons]
    rw [h1] at this
    exact this

section NonVacuity
/-- white Ke1, pawn e2; black Ke8; White to move -/
private def demo (K : Keys) : Board :=
  ((Board.new.putPiece K ⟨.king, .white⟩ 4).putPiece K ⟨.pawn, .white⟩ 12).putPiece K ⟨.king, .black⟩ 60
private def demoF : Sq → Option Piece :=
  Spec.upd (Spec.upd (Spec.upd (fun _ => none) 4 (some ⟨.king, .white⟩)) 12 (some ⟨.pawn, .white⟩)) 60 (some ⟨.king, .black⟩)
private theorem demo_rep (K : Keys) : Rep (demo K) demoF :=
  ((rep_new.putPiece K _ _).putPiece K _ _).putPiece K _ _

/-- a mask-consistent board and a move legal on it (the double push e2–e4) exist, for every key table -/
example (K : Keys) : ∃ (b : Board) (m : Move), b.Cons ∧ Spec.legal b.absPos m = true := by
  refine ⟨demo K, .piece .pawn 12 28 none, (demo_rep K).cons, ?_⟩
  have S := ((putPiece_state K Board.new ⟨.king, .white⟩ 4).trans (putPiece_state K _ ⟨.pawn, .white⟩ 12)).trans
    (putPiece_state K _ ⟨.king, .black⟩ 60)
  have e : (demo K).absPos = ⟨demoF, .white, fun _ => ⟨true, true⟩, none, 0, 1⟩ :=
    Spec.Pos.ext' (demo_rep K).abs_eq S.stm (funext fun c => congrArg (fun r => (r c).toRights) S.rights) S.ep S.half S.full
  rw [e]
  decide +kernel
end NonVacuity

end Chess

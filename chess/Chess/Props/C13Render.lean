import Chess.Lemmas.San
import Chess.Lemmas.Split
/-! # C13 — the history rendering is the standard move numbering

`History.render` produces space-terminated token groups.  The independent description `expectedTokens` is the standard
numbering of a move list: the move number and its dot are fused to White's move (`N.` ++ san, as this library prints
them), Black's move is a bare token, and a game that starts with Black to move opens with `1.` `...`. -/
namespace Chess.C13
open Chess

def tokens (t : Str) : List Str := (splitOn ' ' t).filter (· ≠ [])

/-- standard numbering from ply `ply` on (ply 0 = White's first move): White's moves carry the fused number -/
def numbered : Nat → List Str → List Str
  | _, [] => []
  | ply, w :: rest => (if ply % 2 = 0 then natStr (ply / 2 + 1) ++ '.' :: w else w) :: numbered (ply + 1) rest

def expectedTokens (blackStarting : Bool) (sans : List Str) : List Str :=
  if blackStarting then
    match sans with
    | [] => []
    | w :: rest => "1.".toList :: "...".toList :: w :: numbered 2 rest
  else numbered 0 sans

example : expectedTokens false ["e4".toList, "e5".toList, "Nf3".toList] = ["1.e4".toList, "e5".toList, "2.Nf3".toList] := by
  decide
example : expectedTokens true ["e5".toList, "Nf3".toList, "Nc6".toList] =
    ["1.".toList, "...".toList, "e5".toList, "2.Nf3".toList, "Nc6".toList] := by decide

theorem tokens_nil : tokens [] = [] := by decide

theorem tokens_word (w r : Str) (hw : ' ' ∉ w) (hne : w ≠ []) : tokens (w ++ ' ' :: r) = w :: tokens r := by
  unfold tokens
  rw [splitOn_append_sep _ _ _ hw, List.filter_cons_of_pos (by simpa using hne)]

theorem sanText_no_space (m : Move) (p : MoveProps) : ' ' ∉ sanText m p :=
  fun h => absurd (sanText_isSanCh m p ' ' h) (by decide)

theorem sanText_ne_nil (m : Move) (p : MoveProps) : sanText m p ≠ [] := by
  cases m with
  | castle s => cases s <;> simp [sanText_castle, castleStr]
  | piece pt src dst promo => simp [sanText_piece, printSquare]

theorem go_nil_left (bs : Bool) (i : Nat) (ps : List MoveProps) : History.render.go bs i [] ps = [] := by
  unfold History.render.go; rfl
theorem go_nil_right (bs : Bool) (i : Nat) (ms : List Move) : History.render.go bs i ms [] = [] := by
  unfold History.render.go; cases ms <;> rfl
theorem go_cons (bs : Bool) (i : Nat) (m : Move) (ms : List Move) (p : MoveProps) (ps : List MoveProps) :
    History.render.go bs i (m :: ms) (p :: ps) = History.renderStep bs i m p ++ History.render.go bs (i + 1) ms ps := by
  rw [History.render.go]

/-- away from the special first group a rendered step is one token: the SAN text, with the move number fused to it on
White's plies -/
theorem tokens_renderStep (bs : Bool) (i : Nat) (m : Move) (p : MoveProps) (r : Str) (h0 : i ≠ 0 ∨ bs = false) :
    tokens (History.renderStep bs i m p ++ r) =
      (if (i + bs.toNat) % 2 = 0 then natStr ((i + bs.toNat) / 2 + 1) ++ '.' :: sanText m p else sanText m p) ::
        tokens r := by
  have hs := sanText_no_space m p
  have eb : (i + if bs = true then 1 else 0) = i + bs.toNat := by cases bs <;> rfl
  unfold History.renderStep
  simp only [eb, beq_iff_eq]
  by_cases hp : (i + bs.toNat) % 2 = 0
  · simp only [hp, if_true]
    simpa using tokens_word (natStr ((i + bs.toNat) / 2 + 1) ++ '.' :: sanText m p) r
      (natStr_dot_not_mem _ rfl (by decide) hs) (by simp)
  · have hi : i ≠ 0 := by
      rcases h0 with h | h
      · exact h
      · subst h; intro e; subst e; exact hp (by decide)
    simp only [hp, hi, if_false]
    simpa using tokens_word (sanText m p) r hs (sanText_ne_nil m p)

theorem go_tokens (bs : Bool) (i : Nat) (ms : List Move) (ps : List MoveProps) (h0 : i ≠ 0 ∨ bs = false) :
    tokens (History.render.go bs i ms ps) = numbered (i + bs.toNat) (List.zipWith sanText ms ps) := by
  induction ms generalizing i ps with
  | nil => rw [go_nil_left]; simp [tokens_nil, numbered]
  | cons m ms ih =>
    cases ps with
    | nil => rw [go_nil_right]; simp [tokens_nil, numbered]
    | cons p ps =>
      rw [go_cons, tokens_renderStep bs i m p _ h0, ih (i + 1) ps (Or.inl (by omega)), List.zipWith_cons_cons, numbered,
        show i + 1 + bs.toNat = i + bs.toNat + 1 by omega]

/-- the special first group of a Black-first game: `1. ... san ` -/
theorem go_tokens_black_first (m : Move) (ms : List Move) (p : MoveProps) (ps : List MoveProps) :
    tokens (History.render.go true 0 (m :: ms) (p :: ps)) =
      "1.".toList :: "...".toList :: sanText m p :: numbered 2 (List.zipWith sanText ms ps) := by
  have hs := sanText_no_space m p
  have hne := sanText_ne_nil m p
  have ih := go_tokens true 1 ms ps (Or.inl (by decide))
  have e : (1 + true.toNat) = 2 := rfl
  rw [e] at ih
  rw [go_cons, ← ih]
  have h1 : History.renderStep true 0 m p =
      "1.".toList ++ ' ' :: ("...".toList ++ ' ' :: (sanText m p ++ ' ' :: [])) := by
    unfold History.renderStep
    have : natStr ((0 + 1) / 2 + 1) = ['1'] := by decide
    simp [this]
  rw [h1]
  simp only [List.append_assoc, List.cons_append, List.nil_append]
  rw [tokens_word _ _ (by decide) (by decide), tokens_word _ _ (by decide) (by decide), tokens_word _ _ hs hne]

/-- which side moves first according to the first recorded position (as in `Display for GameHistory`) -/
def blackStarts (h : History) : Bool := match h.positions with | p :: _ => p.stm == .black | [] => false

/-- **C13 (history rendering).**  The non-empty space-delimited tokens of the rendered history are exactly the standard
numbering of the SAN texts of its moves.  (No hypothesis on the SAN texts is needed: `sanText_no_space` and
`sanText_ne_nil` hold for every move; equal lengths of `moves`/`props` are not needed either, both sides truncate alike.) -/
theorem C13_render_tokens (h : History) :
    (splitOn ' ' (History.render h)).filter (· ≠ []) =
      expectedTokens (blackStarts h) (List.zipWith sanText h.moves h.props) := by
  show tokens (History.render.go (blackStarts h) 0 h.moves h.props) = _
  unfold expectedTokens
  cases hb : blackStarts h with
  | false =>
    rw [go_tokens false 0 _ _ (Or.inr rfl)]
    rfl
  | true =>
    simp only [if_true]
    cases hm : h.moves with
    | nil => rw [go_nil_left]; rfl
    | cons m ms =>
      cases hp : h.props with
      | nil => rw [go_nil_right]; rfl
      | cons p ps => rw [go_tokens_black_first]; rfl

/-- the same statement for the filter used by `Game.asPgn` -/
theorem C13_render_tokens' (h : History) :
    (splitOn ' ' (History.render h)).filter (fun w => !w.isEmpty) =
      expectedTokens (blackStarts h) (List.zipWith sanText h.moves h.props) := by
  rw [← C13_render_tokens]
  congr 1; funext w; cases w <;> simp

theorem C13_render_empty (ps : List Board) : History.render ⟨ps, [], []⟩ = [] := by
  unfold History.render
  exact go_nil_left _ _ _

theorem numbered_length (ply : Nat) (sans : List Str) : (numbered ply sans).length = sans.length := by
  induction sans generalizing ply with
  | nil => rfl
  | cons w rest ih => simp [numbered, ih]

theorem numbered_getElem? (ply : Nat) (sans : List Str) (k : Nat) :
    (numbered ply sans)[k]? = sans[k]?.map fun w =>
      if (ply + k) % 2 = 0 then natStr ((ply + k) / 2 + 1) ++ '.' :: w else w := by
  induction sans generalizing ply k with
  | nil => simp [numbered]
  | cons w rest ih =>
    cases k with
    | zero => simp [numbered]
    | succ k =>
      have e : ply + 1 + k = ply + (k + 1) := by omega
      simp [numbered, ih, e]

/-- White-first game: token `k` is move `k`, numbered `k/2 + 1` when `k` is even -/
theorem C13_token_white_first (h : History) (hb : blackStarts h = false) (k : Nat) :
    ((splitOn ' ' (History.render h)).filter (· ≠ []))[k]? =
      (List.zipWith sanText h.moves h.props)[k]?.map fun w =>
        if k % 2 = 0 then natStr (k / 2 + 1) ++ '.' :: w else w := by
  rw [C13_render_tokens, hb]
  simp only [expectedTokens, Bool.false_eq_true, if_false]
  rw [numbered_getElem?]
  simp

/-- Black-first game: tokens `1.` `...`, then token `k+2` is move `k`, numbered `(k+1)/2 + 1` when `k` is odd -/
theorem C13_token_black_first (h : History) (hb : blackStarts h = true) (hne : List.zipWith sanText h.moves h.props ≠ [])
    (k : Nat) :
    let toks := (splitOn ' ' (History.render h)).filter (· ≠ [])
    toks[0]? = some "1.".toList ∧ toks[1]? = some "...".toList ∧
    toks[k + 2]? = (List.zipWith sanText h.moves h.props)[k]?.map fun w =>
        if (k + 1) % 2 = 0 then natStr ((k + 1) / 2 + 1) ++ '.' :: w else w := by
  intro toks
  have ht : toks = expectedTokens true (List.zipWith sanText h.moves h.props) := by
    rw [← hb]; exact C13_render_tokens h
  cases hz : List.zipWith sanText h.moves h.props with
  | nil => exact absurd hz hne
  | cons w rest =>
    rw [ht, hz]
    simp only [expectedTokens, if_true]
    refine ⟨rfl, rfl, ?_⟩
    cases k with
    | zero => simp
    | succ k =>
      have e : 2 + k = k + 1 + 1 := by omega
      simp [numbered_getElem?, e]

end Chess.C13

import Chess.Props.C19
import Chess.Props.C02
import Chess.Props.C04
import Chess.Props.C05
import Chess.Props.C09
/-! # C19 at the level of the bitboard model

`Props/C19.lean` proves the symmetry of the rules (`Spec.*`) under the colour flip `flipV` and, without castling rights, under
the file mirror `flipH`.  Because the model refines the rules (C01, C02, C04, C05), every pair of valid boards standing for a
position and its mirror image has mirrored legal moves, check and pin masks, status and successors. -/
namespace Chess
open Board Spec
variable {K : Keys}

section flipV
variable {b b' : Board} (hv : b.Valid K) (hv' : b'.Valid K) (h : b'.absPos = flipV b.absPos)
include hv hv' h

theorem C19_board_legal (m : Move) : flipVm m ∈ b'.getLegalMoves K ↔ m ∈ b.getLegalMoves K := by
  rw [hv'.mem_getLegalMoves_iff, hv.mem_getLegalMoves_iff, h, C19_legal_valid b.absPos hv.pos]

theorem C19_board_checks (x : Sq) : mem (flipSq x) b'.checks = true ↔ mem x b.checks = true := by
  rw [C05.C05_checks hv', C05.C05_checks hv, h]
  exact C19_checkers b.absPos (validPos_kingUniq hv.pos _) x

theorem C19_board_pins (x : Sq) : mem (flipSq x) b'.pinned = true ↔ mem x b.pinned = true := by
  rw [C05.C05_pins hv', C05.C05_pins hv, h]
  exact C19_pinned b.absPos (validPos_kingUniq hv.pos _) x

theorem C19_board_status : statusToSpec b'.getStatus = flipStatus (statusToSpec b.getStatus) := by
  rw [C04_status b' hv', C04_status b hv, h]
  exact C19_status b.absPos (validPos_kingUniq hv.pos _)

theorem C19_board_successor (m : Move) (hm : m ∈ b.getLegalMoves K) :
    (b'.makeMoveUnchecked K (flipVm m)).absPos =
      { flipV (b.makeMoveUnchecked K m).absPos with full := if b.stm = .white then b.full + 1 else b.full } := by
  have hl := (hv.mem_getLegalMoves_iff m).1 hm
  have hl' := (hv'.mem_getLegalMoves_iff _).1 ((C19_board_legal hv hv' h m).2 hm)
  rw [(C02_successor K b' hv' (flipVm m) hl').1, (C02_successor K b hv m hl).1, h]
  exact C19_apply b.absPos m
end flipV

theorem noRights_abs {b : Board} (hr : ∀ c, b.rights c = .neither) : ∀ c, b.absPos.rights c = ⟨false, false⟩ := by
  intro c; show (b.rights c).toRights = _; rw [hr c]; rfl

section flipH
variable {b b' : Board} (hv : b.Valid K) (hv' : b'.Valid K) (h : b'.absPos = flipH b.absPos)
  (hr : ∀ c, b.rights c = .neither)
include hv hv' h hr

theorem C19_board_mirror_legal (m : Move) : flipHm m ∈ b'.getLegalMoves K ↔ m ∈ b.getLegalMoves K := by
  rw [hv'.mem_getLegalMoves_iff, hv.mem_getLegalMoves_iff, h,
    C19_mirror_legal b.absPos (validPos_kingUniq hv.pos _) (noRights_abs hr)]

theorem C19_board_mirror_checks (x : Sq) : mem (mirSq x) b'.checks = true ↔ mem x b.checks = true := by
  rw [C05.C05_checks hv', C05.C05_checks hv, h]
  exact C19_mirror_checkers b.absPos (validPos_kingUniq hv.pos _) x

theorem C19_board_mirror_pins (x : Sq) : mem (mirSq x) b'.pinned = true ↔ mem x b.pinned = true := by
  rw [C05.C05_pins hv', C05.C05_pins hv, h]
  exact C19_mirror_pinned b.absPos (validPos_kingUniq hv.pos _) x

theorem C19_board_mirror_status : statusToSpec b'.getStatus = statusToSpec b.getStatus := by
  rw [C04_status b' hv', C04_status b hv, h]
  exact C19_mirror_status b.absPos (validPos_kingUniq hv.pos _) (noRights_abs hr)

theorem C19_board_mirror_successor (m : Move) (hm : m ∈ b.getLegalMoves K) :
    (b'.makeMoveUnchecked K (flipHm m)).absPos = flipH (b.makeMoveUnchecked K m).absPos := by
  have hl := (hv.mem_getLegalMoves_iff m).1 hm
  have hl' := (hv'.mem_getLegalMoves_iff _).1 ((C19_board_mirror_legal hv hv' h hr m).2 hm)
  rw [(C02_successor K b' hv' (flipHm m) hl').1, (C02_successor K b hv m hl).1, h]
  exact C19_mirror_apply_legal b.absPos (noRights_abs hr) m hl
end flipH

/-- non-vacuity: every valid board has a valid image under the colour flip, so the hypotheses of the `flipV` theorems above are
satisfiable for every reachable position (there is no such statement for the file mirror) -/
theorem C19_board_exists (b : Board) (hv : b.Valid K) : ∃ b' : Board, b'.Valid K ∧ b'.absPos = flipV b.absPos := by
  let bb : Builder := { pieces := (flipV b.absPos).board, stm := b.stm.other, rights := fun c => b.rights c.other,
                        ep := b.ep.map flipSq, half := b.half, full := b.full }
  have hbb : bb.toPos = flipV b.absPos := rfl
  have hvp : Spec.ValidPos bb.toPos = true := by rw [hbb, C19_validPos]; exact hv.pos
  obtain ⟨b', hb'⟩ := C09_complete K bb hvp
  obtain ⟨hv', habs⟩ := C09_sound K bb b' hb'
  exact ⟨b', hv', by rw [habs, hbb]⟩

end Chess

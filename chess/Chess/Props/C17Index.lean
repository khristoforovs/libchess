import Chess.Props.C17
/-! # C17 — the triangular index of `BetweenTable`

The Rust stores the between-sets of ordered pairs `a ≤ b` in a flat array of `64·65/2 = 2080` cells at index
`offset(a) + b − a` with `offset(a) = 64·a − (a−1)·a/2` (computed in `i64`; `(a−1)·a/2` is `0` for `a = 0` because `-1·0 = 0`),
`set`/`get` swap their arguments into order first.  Here: the index is in range and injective on ordered pairs (it enumerates
them in lexicographic order), so the table filled by the generator loop and read through `get` returns, for EVERY pair of squares,
the value the generator computed for that pair — i.e. `between a b` of the model, whose geometric meaning is `between_spec`. -/
namespace Chess.C17
open Chess

def tableSize : Nat := 64 * 65 / 2

/-- position of the ordered pair `(a, b)`, `a ≤ b`, in lexicographic enumeration -/
def lexPos (a b : Nat) : Nat := (List.range a).foldl (fun acc i => acc + (64 - i)) 0 + (b - a)

theorem triIdx_split (a b : Nat) (h : a ≤ b) : triIdx a b = triIdx a a + (b - a) := by
  simp only [triIdx]
  omega

/-- row `a` has `64 - a` cells: `a(a+1)/2 = (a-1)a/2 + a`, and up to `a = 64` the `i64` difference is not negative -/
theorem triIdx_row_succ (a : Nat) (h : a ≤ 64) : triIdx (a + 1) (a + 1) = triIdx a a + (64 - a) := by
  have h1 : ((a : Int) - 1) * a ≤ 63 * a := Int.mul_le_mul_of_nonneg_right (by omega) (by omega)
  -- expanded so far that `omega` meets the product `(a - 1) * a` as one atom on both sides
  have h2 : (((a + 1 : Nat) : Int) - 1) * ((a + 1 : Nat) : Int) = ((a : Int) - 1) * a + 2 * a := by
    rw [Int.natCast_add, Int.natCast_one, Int.add_sub_cancel, Int.mul_add, Int.sub_mul, Int.mul_one, Int.one_mul]
    omega
  simp only [triIdx]
  omega

theorem triIdx_row_mono {a c : Nat} (hac : a ≤ c) (hc : c ≤ 64) : triIdx a a ≤ triIdx c c := by
  induction hac with
  | refl => exact Nat.le_refl _
  | @step c _ ih =>
    have := triIdx_row_succ c (by omega)
    have := ih (by omega)
    show _ ≤ triIdx (c + 1) (c + 1)
    omega

def pairLt (a b c d : Nat) : Bool := a < c || (a == c && b < d)

/-- the index is strictly monotone from the lexicographic order of ordered pairs (row 64 = one past the end included) -/
theorem triIdx_lex {a b c d : Nat} (hab : a ≤ b) (hb : b < 64) (hcd : c ≤ d) (hc : c ≤ 64)
    (h : pairLt a b c d = true) : triIdx a b < triIdx c d := by
  rw [triIdx_split a b hab, triIdx_split c d hcd]
  simp only [pairLt, Bool.or_eq_true, Bool.and_eq_true, decide_eq_true_eq, beq_iff_eq] at h
  rcases h with h | ⟨rfl, h⟩
  · have := triIdx_row_succ a (by omega)
    have := triIdx_row_mono (a := a + 1) (c := c) h hc
    omega
  · omega

theorem triIdx_eq_lexPos : ∀ a b : Sq, a.val ≤ b.val → triIdx a.val b.val = lexPos a.val b.val := by
  intro a b hab
  have : ∀ n ≤ 64, triIdx n n = lexPos n n := by
    intro n
    induction n with
    | zero => intro _; rfl
    | succ n ih =>
      intro hn
      rw [triIdx_row_succ n (by omega), ih (by omega)]
      simp [lexPos, List.range_succ]
  rw [triIdx_split _ _ hab, this a.val (by omega)]
  simp only [lexPos]
  omega

theorem triIdx_lt : ∀ a b : Sq, a.val ≤ b.val → triIdx a.val b.val < tableSize := by
  intro a b hab
  -- every pair precedes `(64, 64)`, the start of the row one past the end, whose index is the table size
  have hend : triIdx 64 64 = tableSize := by decide
  rw [← hend]
  exact triIdx_lex hab b.isLt (Nat.le_refl _) (Nat.le_refl _) (by simp [pairLt])

theorem triIdx_succ_col : ∀ a b : Sq, a.val ≤ b.val → (h : b.val + 1 < 64) →
    triIdx a.val (b.val + 1) = triIdx a.val b.val + 1 := by
  intro a b hab _
  rw [triIdx_split _ _ hab, triIdx_split a.val (b.val + 1) (by omega)]
  omega
theorem triIdx_succ_row : ∀ a : Sq, (h : a.val + 1 < 64) → triIdx (a.val + 1) (a.val + 1) = triIdx a.val 63 + 1 := by
  intro a h
  rw [triIdx_row_succ _ (by omega), triIdx_split a.val 63 (by omega)]
  omega
theorem triIdx_zero : triIdx 0 0 = 0 := by decide
theorem triIdx_last : triIdx 63 63 = tableSize - 1 := by decide

theorem triIdx_inj (a b c d : Sq) (hab : a.val ≤ b.val) (hcd : c.val ≤ d.val)
    (h : triIdx a.val b.val = triIdx c.val d.val) : a = c ∧ b = d := by
  -- with equal indices neither pair precedes the other in the lexicographic order
  have h1 := fun h' => triIdx_lex hab b.isLt hcd (by omega) h'
  have h2 := fun h' => triIdx_lex hcd d.isLt hab (by omega) h'
  simp only [pairLt, Bool.or_eq_true, Bool.and_eq_true, decide_eq_true_eq, beq_iff_eq] at h1 h2
  refine ⟨Fin.ext ?_, Fin.ext ?_⟩ <;> omega

/-- `BetweenTable::set` / `get` on a flat array modelled as a function from cell index to content -/
def tset (t : Nat → Option (Option BB)) (a b : Sq) (v : Option BB) : Nat → Option (Option BB) :=
  let (x, y) := if a.val > b.val then (b, a) else (a, b)
  fun i => if i = triIdx x.val y.val then some v else t i
def tget (t : Nat → Option (Option BB)) (a b : Sq) : Option (Option BB) :=
  let (x, y) := if a.val > b.val then (b, a) else (a, b)
  t (triIdx x.val y.val)

/-- `generate_between_masks`: for `a` in 0..64, for `b` in `a`..64: `set(a, b, gen a b)` -/
def fillTable : Nat → Option (Option BB) :=
  allSq.foldl (fun t a => (allSq.filter (fun b => a.val ≤ b.val)).foldl (fun t b => tset t a b (betweenGen a b)) t) (fun _ => none)

def cell (a b : Sq) : Nat := if a.val > b.val then triIdx b.val a.val else triIdx a.val b.val

theorem cell_comm (a b : Sq) : cell a b = cell b a := by
  unfold cell
  by_cases h : a.val > b.val
  · rw [if_pos h, if_neg (by omega)]
  · by_cases h' : b.val > a.val
    · rw [if_neg h, if_pos h']
    · obtain rfl : a = b := Fin.ext (by omega)
      rfl

theorem tset_eq (t) (a b : Sq) (v) : tset t a b v = fun i => if i = cell a b then some v else t i := by
  by_cases h : a.val > b.val <;> simp only [tset, cell, h, if_true, if_false]
theorem tget_eq (t) (a b : Sq) : tget t a b = t (cell a b) := by
  by_cases h : a.val > b.val <;> simp only [tget, cell, h, if_true, if_false]

theorem foldl_set_get {α β : Type} [DecidableEq α] (key : α → Nat) (val : α → β) (y : α) (l : List α)
    (hinj : ∀ x ∈ l, key x = key y → x = y) (t : Nat → Option β) :
    (l.foldl (fun t x i => if i = key x then some (val x) else t i) t) (key y) =
      if y ∈ l then some (val y) else t (key y) := by
  induction l generalizing t with
  | nil => rfl
  | cons x xs ih =>
    rw [List.foldl_cons, ih fun z hz => hinj z (List.mem_cons_of_mem _ hz)]
    by_cases hy : y ∈ xs
    · simp [hy]
    · by_cases hk : key y = key x
      · have := hinj x List.mem_cons_self hk.symm
        subst this
        simp
      · have : y ≠ x := fun e => hk (e ▸ rfl)
        simp [hy, hk, this]

def pairs : List (Sq × Sq) := allSq.flatMap fun a => (allSq.filter fun b => a.val ≤ b.val).map (Prod.mk a)

theorem fillTable_eq : fillTable = pairs.foldl
    (fun t x i => if i = cell x.1 x.2 then some (betweenGen x.1 x.2) else t i) (fun _ => none) := by
  unfold fillTable pairs
  rw [List.foldl_flatMap]
  simp only [List.foldl_map, tset_eq]

/-- reading the filled flat table through `get` returns, for every pair of squares in either order, exactly the model's
`between a b` (every cell that is read was written with the generator's value for that pair, and the writes do not collide) -/
theorem between_table_get (a b : Sq) : tget fillTable a b = some (between a b) := by
  have key : ∀ c d : Sq, c.val ≤ d.val → fillTable (cell c d) = some (betweenGen c d) := by
    intro c d hcd
    rw [fillTable_eq, foldl_set_get (fun x : Sq × Sq => cell x.1 x.2) (fun x => betweenGen x.1 x.2) (c, d), if_pos]
    · simp only [pairs, List.mem_flatMap, List.mem_map, List.mem_filter, allSq, List.mem_finRange, true_and, decide_eq_true_eq]
      exact ⟨c, d, hcd, rfl⟩
    · rintro ⟨x1, x2⟩ hx h
      simp only [pairs, List.mem_flatMap, List.mem_map, List.mem_filter, allSq, List.mem_finRange, true_and, decide_eq_true_eq] at hx
      obtain ⟨_, _, hle, e⟩ := hx
      cases e
      simp only [cell, if_neg (Nat.not_lt.2 hle), if_neg (Nat.not_lt.2 hcd)] at h
      obtain ⟨rfl, rfl⟩ := triIdx_inj _ _ _ _ hle hcd h
      rfl
  rw [tget_eq, between_eq]
  by_cases h : a.val ≤ b.val
  · rw [if_pos h, key a b h]
  · rw [if_neg h, cell_comm, key b a (by omega)]

end Chess.C17

import Chess.Lemmas.LegalJoin
/-! # C03 — the legality test and move application accept exactly the generated legal moves

"Every representable move value": `BoardMove`'s constructor rejects promotion to a pawn, so move values whose promotion field is
`some .pawn` do not exist in the Rust (hypothesis `hw`); every other value of the finite type `Move` is covered. -/
namespace Chess
open Board Spec
variable {K : Keys}

theorem C03_rules (b : Board) (hv : b.Valid K) (m : Move) (hw : ∀ pt s d, m ≠ .piece pt s d (some .pawn)) :
    b.isLegalMove K m = Spec.legal b.absPos m := hv.isLegalMove_eq_legal m hw

/-- the legality test answers true iff the move is in the legal-move list -/
theorem C03_iff (b : Board) (hv : b.Valid K) (m : Move) (hw : ∀ pt s d, m ≠ .piece pt s d (some .pawn)) :
    b.isLegalMove K m = true ↔ m ∈ b.getLegalMoves K := hv.isLegalMove_iff m hw

/-- applying succeeds iff legal; the checked form returns exactly the unchecked successor; a rejected move yields the
illegal-move error (and, the model being functional, no new position) -/
theorem C03_apply (b : Board) (hv : b.Valid K) (m : Move) (hw : ∀ pt s d, m ≠ .piece pt s d (some .pawn)) :
    (m ∈ b.getLegalMoves K → b.makeMove K m = .ok (b.makeMoveUnchecked K m)) ∧
    (m ∉ b.getLegalMoves K → b.makeMove K m = .error .illegalMove) := by
  rw [← C03_iff b hv m hw, Board.makeMove]
  cases b.isLegalMove K m <;> simp

end Chess

import Chess.Props.C12
import Chess.Props.C13
import Chess.Props.C07
/-! # C11 — occurrence counting and the repetition rule (M1 level)

"The occurrence counter the game reports equals the true number of occurrences for every position of the
history; repetition is declared iff no board result applies and the current position has occurred at least
three times."

The game keys its counter by the 64-bit Zobrist hash.  Positions with the same repetition key (placement, side to move,
castling rights, en-passant square) have the same hash (C07), so the counter never under-counts.  The converse is FALSE in
general (a 64-bit hash has collisions), therefore "counter = true number of occurrences" is proved only under the
hypothesis `hinj` that no two positions of this game's history collide (`NoCollision`; the theorems named `_partial`). -/
namespace Chess
open Chess.Game

variable (K : Keys)

theorem C11_counter_nodup (g : Game) (hr : GameReach K g) : (g.counter.map (·.1)).Nodup :=
  hr.inv.nodup

theorem C11_counter_entry (g : Game) (hr : GameReach K g) (e : BB × Nat) (he : e ∈ g.counter) :
    g.counterGet e.1 = e.2 := by
  have hp : g.counter.Pairwise (fun e e' => e.1 ≠ e'.1) := List.pairwise_map.1 (C11_counter_nodup K g hr)
  rw [counterGet_eq]
  generalize g.counter = l at he hp
  induction l with
  | nil => cases he
  | cons x l ih =>
    rw [cget_cons]
    rw [List.pairwise_cons] at hp
    rcases List.mem_cons.1 he with rfl | hm
    · simp
    · have : (x.1 == e.1) = false := by simpa using hp.1 e hm
      rw [this]; exact ih hm hp.2

/-- **C11 (core).**  The counter at a hash value is the number of history positions with that hash
(the start position counted). -/
theorem C11_counter_hash (g : Game) (hr : GameReach K g) (h : BB) :
    g.counterGet h = (g.history.positions.filter (fun q => q.hash == h)).length :=
  hr.inv.count h

/-- what `get_position_counter` reports for any board -/
theorem C11_positionCounter (g : Game) (hr : GameReach K g) (p : Board) :
    g.positionCounter p = (g.history.positions.filter (fun q => q.hash == p.hash)).length :=
  C11_counter_hash K g hr p.hash

theorem C11_counter_keys (g : Game) (hr : GameReach K g) :
    ∀ h : BB, h ∈ g.counter.map (·.1) ↔ ∃ q ∈ g.history.positions, q.hash = h :=
  hr.inv.keys

theorem C11_counter_pos (g : Game) (hr : GameReach K g) (p : Board) (hp : p ∈ g.history.positions) :
    1 ≤ g.positionCounter p := by
  rw [C11_positionCounter K g hr]
  exact List.length_pos_of_mem (List.mem_filter.2 ⟨hp, by simp⟩)

/-- the repetition key of two boards agrees: same placement, side to move, castling rights, en-passant square
(`Spec.sameKey` on the positions the boards stand for) -/
def sameKey (p q : Board) : Bool := Spec.sameKey p.absPos q.absPos

theorem sameKey_iff (p q : Board) :
    sameKey p q = true ↔ p.abs = q.abs ∧ p.stm = q.stm ∧ p.rights = q.rights ∧ p.ep = q.ep := by
  unfold sameKey Spec.sameKey Board.absPos
  simp only [Bool.and_eq_true, List.all_eq_true, beq_iff_eq]
  -- `Spec.sameKey` is a left-nested `&&` of five tests: placement, side, White's rights, Black's rights, en passant
  constructor
  · rintro ⟨⟨⟨⟨ha, hs⟩, hw⟩, hb⟩, he⟩
    refine ⟨funext fun s => ha s (by simp [allSq]), hs, ?_, he⟩
    funext c
    cases c
    · exact CR.toRights_inj hw
    · exact CR.toRights_inj hb
  · rintro ⟨ha, hs, hr, he⟩
    refine ⟨⟨⟨⟨fun s _ => by rw [ha], hs⟩, by rw [hr]⟩, by rw [hr]⟩, he⟩

theorem sameKey_refl (p : Board) : sameKey p p = true := (sameKey_iff p p).2 ⟨rfl, rfl, rfl, rfl⟩
theorem sameKey_symm (p q : Board) : sameKey p q = sameKey q p := by
  rw [Bool.eq_iff_iff, sameKey_iff, sameKey_iff]
  constructor <;> (rintro ⟨a, b, c, d⟩; exact ⟨a.symm, b.symm, c.symm, d.symm⟩)

theorem countP_sameKey (l : List Board) (p : Board) :
    (l.map Board.absPos).countP (Spec.sameKey p.absPos) = (l.filter (fun q => sameKey q p)).length := by
  rw [List.countP_map, List.countP_eq_length_filter]
  congr 1
  apply List.filter_congr
  intro q _
  exact (sameKey_symm q p).symm

/-- no two positions of the game's history have the same hash without having the same repetition key -/
def NoCollision (g : Game) : Prop :=
  ∀ p q, p ∈ g.history.positions → q ∈ g.history.positions → p.hash = q.hash → sameKey p q = true

def Board.HashGood (b : Board) : Prop := b.Cons ∧ b.hash = b.calcHash K

theorem C11_history_good (g : Game) (hr : GameReach K g)
    (hstart : ∀ b, g.history.positions.head? = some b → Board.HashGood K b) :
    ∀ q ∈ g.history.positions, Board.HashGood K q := by
  intro q hq
  obtain ⟨i, hi, rfl⟩ := List.getElem_of_mem hq
  have h0 : 0 < g.history.positions.length := by omega
  have hs := hstart g.history.positions[0] (by rw [List.head?_eq_getElem?, List.getElem?_eq_getElem h0])
  rw [C13_replay K g hr i hi h0]
  exact C07_reachable K _ hs.1 hs.2 _

/-- same repetition key ⇒ same hash, for good boards (C07 path independence) -/
theorem C11_sameKey_hash (p q : Board) (hp : Board.HashGood K p) (hq : Board.HashGood K q)
    (h : sameKey p q = true) : p.hash = q.hash :=
  C07_path_independent K p q hp.1 hq.1 hp.2 hq.2 ((sameKey_iff p q).1 h)

/-- the counter never under-counts: it is at least the true number of occurrences -/
theorem C11_counter_ge (g : Game) (hr : GameReach K g)
    (hstart : ∀ b, g.history.positions.head? = some b → Board.HashGood K b)
    (p : Board) (hp : p ∈ g.history.positions) :
    (g.history.positions.filter (fun q => sameKey q p)).length ≤ g.positionCounter p := by
  rw [C11_positionCounter K g hr]
  have hg := C11_history_good K g hr hstart
  rw [← List.countP_eq_length_filter, ← List.countP_eq_length_filter]
  apply List.countP_mono_left
  intro q hq hsk
  simpa using C11_sameKey_hash K q p (hg q hq) (hg p hp) hsk

/- FULL statement (not provable, false for colliding positions):
   `∀ g, GameReach K g → (start good) → ∀ p ∈ g.history.positions,
      g.positionCounter p = (g.history.positions.filter (fun q => sameKey q p)).length`.
   Missing: "two history positions with the same 64-bit hash have the same repetition key".  The library
   (and the model) identify positions by hash alone, so a collision inside one game would over-count.
   That assumption is the explicit hypothesis `hinj`; everything else is proved. -/
/-- **C11 (counter), partial: assuming no hash collision among the positions of this game.** -/
theorem C11_counter_partial (g : Game) (hr : GameReach K g)
    (hstart : ∀ b, g.history.positions.head? = some b → Board.HashGood K b)
    (hinj : NoCollision g)
    (p : Board) (hp : p ∈ g.history.positions) :
    g.positionCounter p = (g.history.positions.filter (fun q => sameKey q p)).length := by
  rw [C11_positionCounter K g hr]
  have hg := C11_history_good K g hr hstart
  congr 1
  apply List.filter_congr
  intro q hq
  rw [Bool.eq_iff_iff]
  constructor
  · intro h; exact hinj q p hq hp (by simpa using h)
  · intro h; simpa using C11_sameKey_hash K q p (hg q hq) (hg p hp) h

theorem C11_counter_current_partial (g : Game) (hr : GameReach K g)
    (hstart : ∀ b, g.history.positions.head? = some b → Board.HashGood K b)
    (hinj : NoCollision g) :
    g.positionCounter g.position = (g.history.positions.filter (fun q => sameKey q g.position)).length :=
  C11_counter_partial K g hr hstart hinj _ hr.position_mem

/-- the counter of the current position in the vocabulary of the specification (`Spec.occurrences` is
`(history g).countP (Spec.sameKey (posAfter g))`) -/
theorem C11_counter_spec_partial (g : Game) (hr : GameReach K g)
    (hstart : ∀ b, g.history.positions.head? = some b → Board.HashGood K b)
    (hinj : NoCollision g) :
    g.positionCounter g.position =
      (g.history.positions.map Board.absPos).countP (Spec.sameKey g.position.absPos) := by
  rw [countP_sameKey]
  exact C11_counter_current_partial K g hr hstart hinj

/-- the hypotheses of `C11_counter_partial` are satisfiable: the initial game of any good board -/
example (b : Board) (hb : Board.HashGood K b) :
    (∀ b', (ofBoard b).history.positions.head? = some b' → Board.HashGood K b') ∧
    (∀ p q, p ∈ (ofBoard b).history.positions → q ∈ (ofBoard b).history.positions → p.hash = q.hash → sameKey p q = true) ∧
    (ofBoard b).positionCounter b = 1 := by
  refine ⟨?_, ?_, ?_⟩
  · intro b' h; rw [PlayedFrom.init.head (K := K)] at h; cases h; exact hb
  · intro p q hp hq _
    simp only [ofBoard_history, History.fromPosition, List.mem_singleton] at hp hq
    subst hp; subst hq; exact sameKey_refl _
  · rw [C11_positionCounter K _ (.init b)]; simp [History.fromPosition]

theorem C11_status_after_move (g g' : Game) (m : Move) (h : g.act K (.move m) = .ok g') :
    g.status = .ongoing ∧
    g'.status = (match g'.position.getStatus with
      | .checkmated c => .checkMated c
      | .theoreticalDraw => .theoreticalDraw
      | .stalemate => .stalemate
      | .fiftyMoves => .fiftyMoves
      | .ongoing => if g'.positionCounter g'.position ≥ 3 then .repetition else .ongoing) := by
  obtain ⟨hs, -, rfl⟩ := act_move_ok K h
  exact ⟨hs, moved_status K g m⟩

/-- **C11 (declared).**  After an accepted move the game is declared drawn by repetition iff the board gives
no result (no mate, stalemate, insufficient material or fifty-move draw) and the counter of the new current
position is at least three. -/
theorem C11_declared (g g' : Game) (m : Move) (h : g.act K (.move m) = .ok g') :
    g'.status = .repetition ↔ g'.position.getStatus = .ongoing ∧ 3 ≤ g'.positionCounter g'.position := by
  rw [(C11_status_after_move K g g' m h).2]
  cases g'.position.getStatus <;> simp

theorem C11_not_declared (g g' : Game) (m : Move) (h : g.act K (.move m) = .ok g')
    (hn : g'.status ≠ .repetition) :
    g'.status = (match g'.position.getStatus with
      | .checkmated c => .checkMated c
      | .theoreticalDraw => .theoreticalDraw
      | .stalemate => .stalemate
      | .fiftyMoves => .fiftyMoves
      | .ongoing => .ongoing) := by
  have h2 := (C11_status_after_move K g g' m h).2
  rw [h2] at hn ⊢
  cases hg : g'.position.getStatus <;> simp only [hg] at hn ⊢
  -- the four board results are closed; left is a board that says ongoing, where `hn` excludes a counter ≥ 3
  by_cases hc : g'.positionCounter g'.position ≥ 3
  · simp [hc] at hn
  · simp [hc]

/-- repetition is never declared at construction (the counter is still empty when the status is computed) -/
theorem C11_initial_not_repetition (b : Board) : (ofBoard b).status ≠ .repetition := by
  rw [C12.initial_status]
  cases b.getStatus <;> simp

theorem C11_nonmove_not_repetition (g g' : Game) (a : Action) (hne : ∀ m, a ≠ .move m) (h : g.act K a = .ok g') :
    g'.status ≠ .repetition := by
  obtain ⟨-, rfl⟩ := act_nonmove_ok K hne h
  cases a <;> simp at hne ⊢

/-- **C11 (declared), in terms of true occurrences — partial in the same respect as `C11_counter_partial`.** -/
theorem C11_declared_occurrences_partial (g g' : Game) (hr : GameReach K g) (m : Move)
    (h : g.act K (.move m) = .ok g')
    (hstart : ∀ b, g.history.positions.head? = some b → Board.HashGood K b)
    (hinj : ∀ p q, p ∈ g'.history.positions → q ∈ g'.history.positions → p.hash = q.hash → sameKey p q = true) :
    g'.status = .repetition ↔
      g'.position.getStatus = .ongoing ∧
      3 ≤ (g'.history.positions.filter (fun q => sameKey q g'.position)).length := by
  obtain ⟨b0, hp⟩ := hr.playedFrom
  have hp' := hp.step _ h
  rw [C11_declared K g g' m h,
    C11_counter_current_partial K g' (hp'.reach K) (by rw [hp'.head, ← hp.head]; exact hstart) hinj]

end Chess

import Chess.Props.C11
import Chess.Props.C03
import Chess.Props.C04
import Chess.Props.C06
/-! # C12 — the game protocol, refinement form

The model game (`Game`, `Game.ofBoard`, `Game.act K`) refines the specification's transition table
(`Spec.GState`, `Spec.init`, `Spec.step`) under the abstraction `absGame`: model and specification accept and
reject the same actions with the same error kind, and every accepted action leads to related states
(status — board result or repetition —, recorded moves, positions).

Only one clause depends on an assumption: the model keys its occurrence counter by the 64-bit hash whereas
`Spec.occurrences` compares repetition keys, so the status after an accepted MOVE is the specification's only
if no two positions of the successor's history collide (`hinj`, exactly the hypothesis of `C11_counter_partial`).
The theorems needing it are named `…_partial`; rejection, every non-move action, the initial state, the tag and
all fields other than the status after a move are unconditional.  `C12_refines_core` says all of it in one equation, from
which the theorems about moves and about rejection are read off. -/
namespace Chess
open Chess.Game

variable (K : Keys)

def absStatus : GStatus → Spec.GStatus
  | .ongoing => .ongoing
  | .drawOffered c => .drawOffered c
  | .checkMated c => .checkmated c
  | .resigned c => .resigned c
  | .fiftyMoves => .fifty
  | .theoreticalDraw => .insufficient
  | .repetition => .repetition
  | .drawAccepted => .drawAccepted
  | .stalemate => .stalemate

def absAction : Action → Spec.Action
  | .move m => .move m
  | .offerDraw c => .offer c
  | .acceptDraw => .accept
  | .declineDraw => .decline
  | .resign c => .resign c

/-- `Game.act` only ever fails with `illegalAction` or `gameFinished` (`C10_act_error_origin`) -/
def absErr : Err → Spec.GErr
  | .gameFinished => .finished
  | _ => .illegalAction

def absGame (g : Game) : Spec.GState :=
  { start := (g.history.positions.headD g.position).absPos,
    later := (g.history.positions.drop 1).map Board.absPos,
    moves := g.history.moves,
    status := absStatus g.status }

def absResult : Except Err Game → Except Spec.GErr Spec.GState
  | .ok g => .ok (absGame g)
  | .error e => .error (absErr e)

theorem absResult_eq (r : Except Err Game) : absResult r = (r.map absGame).mapError absErr := by
  cases r <;> rfl

theorem absStatus_injective : ∀ s t, absStatus s = absStatus t → s = t := by
  intro s t h; cases s <;> cases t <;> simp_all [absStatus]

theorem absAction_injective : ∀ a b, absAction a = absAction b → a = b := by
  intro a b h; cases a <;> cases b <;> simp_all [absAction]

theorem absStatus_terminal (s : GStatus) : (absStatus s).terminal = C12.finished s := by
  cases s <;> rfl

/-- the moves a caller can construct: `PieceMove::new` rejects promotion to a pawn -/
def Action.Constructible : Action → Prop
  | .move m => ∀ pt s d, m ≠ .piece pt s d (some .pawn)
  | _ => True

/-- the games a caller can hold: built from a `Valid` board, followed by accepted constructible actions -/
inductive GameOK : Game → Prop
  | init (b : Board) : b.Valid K → GameOK (Game.ofBoard b)
  | step {g g' : Game} (a : Action) : GameOK g → Action.Constructible a → g.act K a = .ok g' → GameOK g'

theorem GameOK.all {g : Game} (h : GameOK K g) : GameReach K g ∧ (∀ q ∈ g.history.positions, q.Valid K) ∧
    ∀ m ∈ g.history.moves, ∀ pt s d, m ≠ .piece pt s d (some .pawn) := by
  induction h with
  | init b hv => exact ⟨.init b, by simpa [History.fromPosition] using hv, by simp [History.fromPosition]⟩
  | @step g g' a _ hc ha ih =>
    obtain ⟨hr, hv, hm⟩ := ih
    refine ⟨.step a hr ha, ?_⟩
    rcases act_ok K ha with ⟨m, rfl, -, hl, rfl⟩ | ⟨-, rfl⟩
    · have hcur := hv _ hr.position_mem
      have hnb := C06_step_checked _ (g.position.makeMoveUnchecked K m) hcur m hc (by simp [Board.makeMove, hl])
      simp only [moved_history, List.mem_append, List.mem_singleton]
      exact ⟨fun q hq => hq.elim (hv q) (fun e => e ▸ hnb), fun x hx => hx.elim (hm x) (fun e => e ▸ hc)⟩
    · simpa using ⟨hv, hm⟩

theorem GameOK.reach {g : Game} (h : GameOK K g) : GameReach K g := (h.all K).1

theorem history_valid {g : Game} (h : GameOK K g) : ∀ q ∈ g.history.positions, q.Valid K := (h.all K).2.1

theorem GameOK.position_valid {g : Game} (h : GameOK K g) : g.position.Valid K :=
  history_valid K h _ h.reach.position_mem

theorem GameOK.moves_constructible {g : Game} (h : GameOK K g) :
    ∀ m ∈ g.history.moves, ∀ pt s d, m ≠ .piece pt s d (some .pawn) := (h.all K).2.2

theorem GameOK_iff (g : Game) :
    GameOK K g ↔ GameReach K g ∧ (∃ b, g.history.positions.head? = some b ∧ b.Valid K) ∧
      ∀ m ∈ g.history.moves, ∀ pt s d, m ≠ .piece pt s d (some .pawn) := by
  constructor
  · intro h
    obtain ⟨b, hp⟩ := h.reach.playedFrom
    exact ⟨h.reach, ⟨b, hp.head, history_valid K h b (List.mem_of_mem_head? hp.head)⟩, h.moves_constructible⟩
  · rintro ⟨hr, ⟨b, hb, hv⟩, hm⟩
    obtain ⟨b0, hp⟩ := hr.playedFrom
    obtain rfl : b0 = b := Option.some.inj (hp.head.symm.trans hb)
    clear hr hb
    -- by induction on the play from `ofBoard b0`; `hm` speaks of the game reached and is carried along
    induction hp with
    | init => exact .init b0 hv
    | @step g g' a _ ha ih =>
      rcases act_ok K ha with ⟨m, rfl, -, -, rfl⟩ | ⟨hne, rfl⟩
      · rw [moved_history] at hm
        exact .step (.move m) (ih fun m' h' => hm m' (List.mem_append_left _ h')) (hm m (by simp)) ha
      · refine .step a (ih (by simpa using hm)) ?_ ha
        cases a with
        | move m => exact absurd rfl (hne m)
        | _ => trivial

theorem history_absGame {g : Game} (hr : GameReach K g) :
    Spec.history (absGame g) = g.history.positions.map Board.absPos := by
  obtain ⟨b, l, hp⟩ := hr.positions_cons
  simp [Spec.history, absGame, hp]

theorem posAfter_absGame {g : Game} (hr : GameReach K g) :
    Spec.posAfter (absGame g) = g.position.absPos := by
  have hl := hr.inv.chain.last
  obtain ⟨b, l, hp⟩ := hr.positions_cons
  rw [hp, List.getLast?_cons, Option.some.injEq] at hl
  simp only [Spec.posAfter, absGame, hp, List.headD_cons, List.drop_one, List.tail_cons, List.getLast?_map,
    Option.getD_map, hl]

/-- the specification's table for the status after a move, with the occurrence count as a parameter (model: `modelAfter`) -/
def specAfter (st : Spec.Status) (n : Nat) : Spec.GStatus :=
  match st with
  | .checkmated c => .checkmated c | .stalemate => .stalemate | .insufficient => .insufficient | .fifty => .fifty
  | .ongoing => if n ≥ 3 then .repetition else .ongoing

theorem afterMoveStatus_spec (G : Spec.GState) :
    Spec.afterMoveStatus G = specAfter (Spec.status (Spec.posAfter G)) (Spec.occurrences G) := by
  unfold Spec.afterMoveStatus specAfter; cases Spec.status (Spec.posAfter G) <;> rfl

theorem absStatus_modelAfter (st : Board.Status) (n k : Nat) (h : st = .ongoing → (n ≥ 3 ↔ k ≥ 3)) :
    absStatus (modelAfter st n) = specAfter (statusToSpec st) k := by
  cases st with
  | ongoing =>
    have := h rfl
    simp only [modelAfter, specAfter, statusToSpec]
    by_cases hn : n ≥ 3
    · rw [if_pos hn, if_pos (this.1 hn)]; rfl
    · rw [if_neg hn, if_neg (fun hk => hn (this.2 hk))]; rfl
  | _ => rfl

/-- the tables read at a count `k` that may fall short of the model's `n` (a hash collision) -/
theorem specAfter_le_modelAfter (st : Board.Status) {k n : Nat} (h : k ≤ n) :
    specAfter (statusToSpec st) k = absStatus (modelAfter st n) ∨
    (specAfter (statusToSpec st) k = .ongoing ∧ modelAfter st n = .repetition ∧ statusToSpec st = .ongoing ∧
      k < 3 ∧ 3 ≤ n) := by
  cases st <;> try exact .inl rfl
  simp only [modelAfter, specAfter, statusToSpec]
  by_cases h3 : 3 ≤ k
  · exact .inl (by rw [if_pos h3, if_pos (by omega)]; rfl)
  · by_cases h4 : 3 ≤ n
    · exact .inr ⟨by rw [if_neg h3], by rw [if_pos h4], trivial, by omega, h4⟩
    · exact .inl (by rw [if_neg h3, if_neg h4]; rfl)

theorem spec_init_status (p : Spec.Pos) : (Spec.init p).status = specAfter (Spec.status p) 1 := by
  have hk : Spec.sameKey p p = true := by simp [Spec.sameKey]
  show Spec.afterMoveStatus _ = _
  rw [afterMoveStatus_spec]
  simp [Spec.occurrences, Spec.history, Spec.posAfter, hk]

/-- **C12 (initial).**  The game built from a valid board stands for the specification's initial state of the
position the board stands for: no moves, status = the board result of the start position. -/
theorem C12_init (b : Board) (hv : b.Valid K) : absGame (Game.ofBoard b) = Spec.init b.absPos := by
  have hst : absStatus (Game.ofBoard b).status = (Spec.init b.absPos).status := by
    rw [spec_init_status, C12.initial_status, ← C04_status b hv]
    cases b.getStatus <;> rfl
  simp only [absGame, ofBoard_history, ofBoard_position, History.fromPosition, List.headD_cons, List.drop_one,
    List.tail_cons, List.map_nil, hst]
  rfl

theorem C12_init_status (b : Board) (hv : b.Valid K) :
    (Spec.init b.absPos).status = specAfter (Spec.status b.absPos) 1 :=
  spec_init_status b.absPos

theorem resultTagOf_abs (s : GStatus) : resultTagOf s = (Spec.tagOf (absStatus s)).toList := by
  cases s <;> (try (rename_i c; cases c)) <;> rfl

/-- **C12 (tag).**  The result tag is `1-0`, `0-1`, `1/2-1/2` or `?` exactly as the specification's table
dictates for the (abstract) status, in every reachable game. -/
theorem C12_tag (g : Game) (hr : GameReach K g) : g.result = (Spec.tagOf (absStatus g.status)).toList :=
  hr.inv.tag.trans (resultTagOf_abs _)

@[simp] theorem absGame_status (g : Game) : (absGame g).status = absStatus g.status := rfl

theorem absGame_updateStatus (g : Game) (l : Option Action) :
    absGame (g.updateStatus l) = { absGame g with status := absStatus (g.updateStatus l).status } := by
  simp [absGame]

/-- **C12 (refinement, non-move actions) — unconditional, for every game value.**  Draw offers, accept, decline
and resignation are accepted / rejected by the model exactly as by the specification, with the same error
kind, and the accepted ones lead to the specification's successor (only the status changes). -/
theorem C12_refines_nonmove (g : Game) (a : Action) (hne : ∀ m, a ≠ .move m) :
    absResult (g.act K a) = Spec.step (absGame g) (absAction a) := by
  rw [act_nonmove K g a hne]
  cases a with
  | move m => exact absurd rfl (hne m)
  | _ =>
    -- the two tables row by row (4 actions × 9 statuses); under a pending offer a second offer is `illegalAction`, not
    -- `finished`, in both
    cases hs : g.status <;>
      simp [accepts, C12.finished, Spec.step, hs, absStatus, absAction, absResult, absErr, absGame_updateStatus]

theorem spec_step_move (G : Spec.GState) (m : Move) (hs : G.status = .ongoing) :
    Spec.step G (.move m) =
      if Spec.legal (Spec.posAfter G) m then
        .ok { start := G.start, later := G.later ++ [Spec.apply (Spec.posAfter G) m], moves := G.moves ++ [m],
              status := Spec.afterMoveStatus
                { start := G.start, later := G.later ++ [Spec.apply (Spec.posAfter G) m], moves := G.moves ++ [m],
                  status := G.status } }
      else .error .illegalAction := by
  unfold Spec.step; simp only [hs]

theorem GameOK.hashGood {g : Game} (h : GameOK K g) :
    ∀ b, g.history.positions.head? = some b → Board.HashGood K b := by
  intro b hb
  have hv := history_valid K h b (List.mem_of_mem_head? hb)
  exact ⟨hv.cons, hv.hash_eq⟩

theorem occurrences_absGame {g : Game} (hr : GameReach K g) :
    Spec.occurrences (absGame g) = (g.history.positions.map Board.absPos).countP (Spec.sameKey g.position.absPos) := by
  unfold Spec.occurrences
  rw [history_absGame K hr, posAfter_absGame K hr]

theorem occurrences_le_counter {g : Game} (h : GameOK K g) :
    Spec.occurrences (absGame g) ≤ g.positionCounter g.position := by
  rw [occurrences_absGame K h.reach, countP_sameKey]
  exact C11_counter_ge K g h.reach h.hashGood g.position h.reach.position_mem

theorem occurrences_eq_counter_partial {g : Game} (h : GameOK K g) (hinj : NoCollision g) :
    g.positionCounter g.position = Spec.occurrences (absGame g) := by
  rw [occurrences_absGame K h.reach]
  exact C11_counter_spec_partial K g h.reach h.hashGood hinj

theorem afterMoveStatus_absGame {g : Game} (h : GameOK K g) :
    Spec.afterMoveStatus (absGame g) =
      specAfter (statusToSpec g.position.getStatus) (Spec.occurrences (absGame g)) := by
  rw [afterMoveStatus_spec, posAfter_absGame K h.reach, ← C04_status _ h.position_valid]

theorem status_after_move_of_count {g : Game} (h : GameOK K g) (hst : g.status = C12.afterMoveStatus g)
    (hcount : g.position.getStatus = .ongoing →
      (g.positionCounter g.position ≥ 3 ↔ Spec.occurrences (absGame g) ≥ 3)) :
    absStatus g.status = Spec.afterMoveStatus (absGame g) := by
  rw [hst, C12.afterMoveStatus, afterMoveStatus_absGame K h]
  exact absStatus_modelAfter _ _ _ hcount

/-- the specification recomputes the status after a move from the true occurrences -/
def fixStatus : Action → Spec.GState → Spec.GState
  | .move _, G => { G with status := Spec.afterMoveStatus G }
  | _, G => G

theorem absGame_moved {g : Game} (hok : GameOK K g) (m : Move) (hl : Spec.legal g.position.absPos m = true) :
    absGame (g.moved K m) =
      { start := (absGame g).start, later := (absGame g).later ++ [Spec.apply g.position.absPos m],
        moves := (absGame g).moves ++ [m], status := absStatus (g.moved K m).status } := by
  have hsucc := (C02_successor K _ hok.position_valid m hl).1
  obtain ⟨x, l, hp⟩ := hok.reach.positions_cons
  simp [absGame, hp, ← hsucc]

/-- **C12 (refinement), one action — unconditional.**  The specification's step is the abstraction of the model's step:
same acceptance, same error kind, same successor — except that after a move the specification computes the status from
the true occurrences, the model from its hash-keyed counter. -/
theorem C12_refines_core (g : Game) (hok : GameOK K g) (a : Action) (hc : Action.Constructible a) :
    Spec.step (absGame g) (absAction a) = (absResult (g.act K a)).map (fixStatus a) := by
  cases a with
  | move m =>
    rw [show absAction (.move m) = .move m from rfl, act_move]
    by_cases hs : g.status = .ongoing
    · have hleg : g.position.isLegalMove K m = Spec.legal g.position.absPos m := C03_rules _ hok.position_valid m hc
      rw [spec_step_move _ _ (by rw [absGame_status, hs]; rfl), posAfter_absGame K hok.reach, ← hleg, if_pos hs]
      cases hl : g.position.isLegalMove K m
      · rfl
      · -- accepted by both: same start, positions and moves (`absGame_moved`); `fixStatus` recomputes the status
        simp only [if_true, absResult, Except.map, fixStatus, absGame_moved K hok m (hleg ▸ hl), absGame_status, hs]
        rfl
    · rw [if_neg hs]
      cases hs' : g.status <;> simp_all [C12.finished, Spec.step, absStatus, absResult, absErr, Except.map]
  | _ =>
    rw [← C12_refines_nonmove K g _ (by simp)]
    cases g.act K _ <;> rfl

/-- **C12 (refinement, rejection) — unconditional.**  Whatever the model rejects the specification rejects,
with the same error kind (`illegalAction ↦ illegalAction`, `gameFinished ↦ finished`). -/
theorem C12_refines_err (g : Game) (hok : GameOK K g) (a : Action) (hc : Action.Constructible a) (e : Err)
    (h : g.act K a = .error e) : Spec.step (absGame g) (absAction a) = .error (absErr e) := by
  rw [C12_refines_core K g hok a hc, h]
  rfl

/-- conversely, whatever the specification rejects the model rejects (unconditional) -/
theorem C12_refines_err_iff (g : Game) (hok : GameOK K g) (a : Action) (hc : Action.Constructible a) :
    (∃ e, g.act K a = .error e) ↔ (∃ e, Spec.step (absGame g) (absAction a) = .error e) := by
  rw [C12_refines_core K g hok a hc]
  cases g.act K a <;> simp [absResult, Except.map]

theorem refines_ok_of_status {g g' : Game} (hok : GameOK K g) (a : Action) (hc : Action.Constructible a)
    (h : g.act K a = .ok g') (hst : ∀ m, a = .move m → absStatus g'.status = Spec.afterMoveStatus (absGame g')) :
    Spec.step (absGame g) (absAction a) = .ok (absGame g') := by
  rw [C12_refines_core K g hok a hc, h]
  cases a with
  | move m =>
    simp only [absResult, Except.map, fixStatus, ← hst m rfl]
    rfl
  | _ => rfl

/-- **C12 (refinement, accepted non-move) — unconditional.** -/
theorem C12_refines_ok_nonmove (g g' : Game) (a : Action) (hne : ∀ m, a ≠ .move m) (h : g.act K a = .ok g') :
    Spec.step (absGame g) (absAction a) = .ok (absGame g') := by
  have := C12_refines_nonmove K g a hne
  rw [h] at this
  exact this.symm

/-- **C12 (refinement, accepted move) — unconditional part.**  The specification accepts the move too; its
successor has the same start position, positions and moves as the abstraction of the model's successor; the
status is the same whenever the board gives a result (mate, stalemate, insufficient material, fifty moves), and
whenever the specification declares repetition so does the model.  The only possible disagreement: the
board gives no result, the true number of occurrences is below three, but the hash-keyed counter reached three
(a hash collision) — then the model says repetition where the specification says ongoing. -/
theorem C12_refines_move (g g' : Game) (hok : GameOK K g) (m : Move)
    (hw : ∀ pt s d, m ≠ .piece pt s d (some .pawn)) (h : g.act K (.move m) = .ok g') :
    ∃ G', Spec.step (absGame g) (.move m) = .ok G' ∧
      G'.start = (absGame g').start ∧ G'.later = (absGame g').later ∧ G'.moves = (absGame g').moves ∧
      (G'.status = absStatus g'.status ∨
        (G'.status = .ongoing ∧ g'.status = .repetition ∧ Spec.status g'.position.absPos = .ongoing ∧
          Spec.occurrences (absGame g') < 3 ∧ 3 ≤ g'.positionCounter g'.position)) := by
  have hok' : GameOK K g' := .step (.move m) hok hw h
  have hcore := C12_refines_core K g hok (.move m) hw
  rw [h] at hcore
  refine ⟨_, hcore, rfl, rfl, rfl, ?_⟩
  obtain ⟨-, -, rfl⟩ := act_move_ok K h
  have hle := occurrences_le_counter K hok'
  show Spec.afterMoveStatus _ = _ ∨ (Spec.afterMoveStatus _ = _ ∧ _)
  -- both statuses are their tables read at the same board status; the counts may differ, but only as `hle` allows
  rw [afterMoveStatus_absGame K hok', ← C04_status _ hok'.position_valid, moved_status K g m, C12.afterMoveStatus]
  exact specAfter_le_modelAfter _ hle

/-- **C12 (refinement, accepted action), partial: assuming no hash collision among the positions of the
successor's history** (needed for the repetition clause of an accepted move only).
FULL statement: the same without `hinj`; it is false if two positions of one game collide under the 64-bit
hash, see `C12_refines_move` for exactly what remains true then. -/
theorem C12_refines_ok_partial (g g' : Game) (hok : GameOK K g) (a : Action) (hc : Action.Constructible a)
    (h : g.act K a = .ok g') (hinj : NoCollision g') :
    Spec.step (absGame g) (absAction a) = .ok (absGame g') := by
  refine refines_ok_of_status K hok a hc h ?_
  rintro m rfl
  have hok' : GameOK K g' := .step _ hok hc h
  obtain ⟨-, -, rfl⟩ := act_move_ok K h
  refine status_after_move_of_count K hok' (moved_status K g m) fun _ => ?_
  rw [occurrences_eq_counter_partial K hok' hinj]

/-- **C12 (refinement), partial in the repetition clause only.**  Model and specification accept / reject the
action identically, with the same error kind, and on acceptance the abstraction of the model's successor is
the specification's successor. -/
theorem C12_refines_partial (g : Game) (hok : GameOK K g) (a : Action) (hc : Action.Constructible a)
    (hinj : ∀ g', g.act K a = .ok g' → NoCollision g') :
    ((g.act K a).map absGame).mapError absErr = Spec.step (absGame g) (absAction a) := by
  rw [← absResult_eq]
  cases h : g.act K a with
  | ok g' => exact (C12_refines_ok_partial K g g' hok a hc h (hinj g' h)).symm
  | error e => exact (C12_refines_err K g hok a hc e h).symm

/-- when the board gives a result after the move, no hypothesis is needed -/
theorem C12_refines_ok_move_result (g g' : Game) (hok : GameOK K g) (m : Move)
    (hw : ∀ pt s d, m ≠ .piece pt s d (some .pawn)) (h : g.act K (.move m) = .ok g')
    (hres : g'.position.getStatus ≠ .ongoing) :
    Spec.step (absGame g) (.move m) = .ok (absGame g') := by
  refine refines_ok_of_status K hok (.move m) hw h ?_
  rintro m' -
  have hok' : GameOK K g' := .step (.move m) hok hw h
  obtain ⟨-, -, rfl⟩ := act_move_ok K h
  exact status_after_move_of_count K hok' (moved_status K g m) (fun hh => absurd hh hres)

/-- apply a list of actions to a game; a rejected action leaves the game unchanged (the Rust returns the error
and mutates nothing); the trace records `none` for an accepted action and the error for a rejected one -/
def runModel : Game → List Action → Game × List (Option Err)
  | g, [] => (g, [])
  | g, a :: as =>
    match g.act K a with
    | .ok g' => ((runModel g' as).1, none :: (runModel g' as).2)
    | .error e => ((runModel g as).1, some e :: (runModel g as).2)

def runSpec : Spec.GState → List Spec.Action → Spec.GState × List (Option Spec.GErr)
  | G, [] => (G, [])
  | G, a :: as =>
    match Spec.step G a with
    | .ok G' => ((runSpec G' as).1, none :: (runSpec G' as).2)
    | .error e => ((runSpec G as).1, some e :: (runSpec G as).2)

def Game.after (g : Game) (a : Action) : Game := match g.act K a with | .ok g' => g' | .error _ => g

theorem Game.after_ok {g g' : Game} {a : Action} (h : g.act K a = .ok g') : g.after K a = g' := by
  unfold Game.after
  rw [h]

theorem runModel_cons_fst (g : Game) (a : Action) (as : List Action) :
    (runModel K g (a :: as)).1 = (runModel K (g.after K a) as).1 := by
  unfold Game.after
  rw [runModel]
  cases g.act K a <;> rfl

theorem GameOK.after {g : Game} (h : GameOK K g) {a : Action} (hc : Action.Constructible a) : GameOK K (g.after K a) := by
  unfold Game.after
  split
  · next ha => exact .step a h hc ha
  · exact h

theorem after_positions_prefix (g : Game) (a : Action) : g.history.positions <+: (g.after K a).history.positions := by
  unfold Game.after
  split
  · next ha =>
    rcases act_ok K ha with ⟨m, -, -, -, rfl⟩ | ⟨-, rfl⟩
    · rw [moved_history]
      exact List.prefix_append _ _
    · rw [updateStatus_history]
      exact List.prefix_refl _
  · exact List.prefix_refl _

theorem runModel_positions_prefix (as : List Action) (g : Game) :
    g.history.positions <+: (runModel K g as).1.history.positions := by
  induction as generalizing g with
  | nil => exact List.prefix_refl _
  | cons a as ih => rw [runModel_cons_fst]; exact (after_positions_prefix K g a).trans (ih _)

theorem NoCollision.of_prefix {g g' : Game} (hp : g.history.positions <+: g'.history.positions)
    (h : NoCollision g') : NoCollision g :=
  fun p q hpm hqm e => h p q (hp.subset hpm) (hp.subset hqm) e

theorem NoCollision.ofBoard (b : Board) : NoCollision (Game.ofBoard b) := by
  intro p q hp hq _
  simp only [ofBoard_history, History.fromPosition, List.mem_singleton] at hp hq
  subst hp; subst hq; exact sameKey_refl _

theorem runModel_ok_inv (as : List Action) (g : Game) (hok : GameOK K g) (hc : ∀ a ∈ as, Action.Constructible a) :
    GameOK K (runModel K g as).1 := by
  induction as generalizing g with
  | nil => exact hok
  | cons a as ih =>
    rw [runModel_cons_fst]
    exact ih _ (hok.after K (hc a List.mem_cons_self)) fun a' h' => hc a' (List.mem_cons_of_mem _ h')

def Lockstep (g : Game) (as : List Action) : Prop :=
  absGame (runModel K g as).1 = (runSpec (absGame g) (as.map absAction)).1 ∧
  (runModel K g as).2.map (Option.map absErr) = (runSpec (absGame g) (as.map absAction)).2

theorem Lockstep.cons {g : Game} {a : Action} {as : List Action}
    (hstep : absResult (g.act K a) = Spec.step (absGame g) (absAction a)) (ih : Lockstep K (g.after K a) as) :
    Lockstep K g (a :: as) := by
  revert ih
  unfold Game.after Lockstep
  -- one step of both runs; by `hstep` the specification's `match` is on the abstraction of the model's result
  rw [List.map_cons, runModel, runSpec, ← hstep]
  cases g.act K a <;> exact fun ih => ⟨ih.1, congrArg (_ :: ·) ih.2⟩

/-- **C12 (runs), partial in the repetition clause only** (`hinj`: no two positions of the final history
collide; the histories of the intermediate games are prefixes of it).  Running any list of constructible
actions through the model and through the specification from related states gives related final states and
the same accept / reject trace, error kinds included. -/
theorem C12_lockstep_partial (as : List Action) : ∀ g : Game, GameOK K g → (∀ a ∈ as, Action.Constructible a) →
    NoCollision (runModel K g as).1 →
    absGame (runModel K g as).1 = (runSpec (absGame g) (as.map absAction)).1 ∧
    (runModel K g as).2.map (Option.map absErr) = (runSpec (absGame g) (as.map absAction)).2 := by
  induction as with
  | nil => intro g _ _ _; exact ⟨rfl, rfl⟩
  | cons a as ih =>
    intro g hok hc hinj
    have hca := hc a List.mem_cons_self
    rw [runModel_cons_fst] at hinj
    refine Lockstep.cons K ?_ (ih _ (hok.after K hca) (fun a' h' => hc a' (List.mem_cons_of_mem _ h')) hinj)
    rw [absResult_eq]
    refine C12_refines_partial K g hok a hca fun g' h => .of_prefix ?_ hinj
    rw [← Game.after_ok K h]
    exact runModel_positions_prefix K as _

/-- **C12 (whole games), partial in the repetition clause only.**  For every valid start position and every
sequence of constructible actions: the game built from the board and then driven by the actions stands, at the
end, for the state the specification reaches from its initial state of that position under the same actions, and
both accepted and rejected the same actions with the same error kinds. -/
theorem C12_game_partial (b : Board) (hv : b.Valid K) (as : List Action) (hc : ∀ a ∈ as, Action.Constructible a)
    (hinj : NoCollision (runModel K (Game.ofBoard b) as).1) :
    absGame (runModel K (Game.ofBoard b) as).1 = (runSpec (Spec.init b.absPos) (as.map absAction)).1 ∧
    (runModel K (Game.ofBoard b) as).2.map (Option.map absErr) = (runSpec (Spec.init b.absPos) (as.map absAction)).2 ∧
    (runModel K (Game.ofBoard b) as).1.result =
      (Spec.tagOf (runSpec (Spec.init b.absPos) (as.map absAction)).1.status).toList := by
  have hok : GameOK K (Game.ofBoard b) := .init b hv
  obtain ⟨h1, h2⟩ := C12_lockstep_partial K as _ hok hc hinj
  rw [C12_init K b hv] at h1 h2
  refine ⟨h1, h2, ?_⟩
  rw [← h1, C12_tag K _ (runModel_ok_inv K as _ hok hc).reach]
  rfl

/-- runs of non-move actions need no hypothesis at all (no position is added, so nothing can collide) -/
theorem C12_lockstep_nonmove (as : List Action) (hne : ∀ a ∈ as, ∀ m, a ≠ .move m) : ∀ g : Game,
    absGame (runModel K g as).1 = (runSpec (absGame g) (as.map absAction)).1 ∧
    (runModel K g as).2.map (Option.map absErr) = (runSpec (absGame g) (as.map absAction)).2 := by
  induction as with
  | nil => intro g; exact ⟨rfl, rfl⟩
  | cons a as ih =>
    intro g
    exact Lockstep.cons K (C12_refines_nonmove K g a (hne a List.mem_cons_self))
      (ih (fun a' h' => hne a' (List.mem_cons_of_mem _ h')) _)

/-- the hypotheses are satisfiable: the game of any valid board is `GameOK` and collision-free -/
example (b : Board) (hv : b.Valid K) : GameOK K (Game.ofBoard b) ∧ NoCollision (Game.ofBoard b) :=
  ⟨.init b hv, NoCollision.ofBoard b⟩

/-- … and valid boards exist for every key table (`C09.sample`), so `GameOK` games do -/
example : ∃ g : Game, GameOK K g ∧ NoCollision g ∧ absGame g = Spec.init C09.sample.toPos := by
  obtain ⟨b, hb⟩ := C09_complete K _ C09.sample_valid
  obtain ⟨hv, habs⟩ := C09_sound K _ b hb
  exact ⟨Game.ofBoard b, .init b hv, NoCollision.ofBoard b, by rw [C12_init K b hv, habs]⟩

end Chess

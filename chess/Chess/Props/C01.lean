import Chess.Lemmas.LegalJoin
import Chess.Lemmas.SpecInv
/-! # C01 — generated legal moves are exactly the moves the rules of chess allow

`Spec.legal` (Spec/Rules.lean) is the declarative rule: movement geometry with empty intermediate squares, pawn pushes /
double pushes / captures / en passant, promotion piece present exactly on the last rank and one of N,B,R,Q, never onto an own man,
both castlings (right held, path empty, not out of / through / into check), and the mover's king not attacked afterwards. -/
namespace Chess
open Board Spec
variable {K : Keys}

/-- the legal-move list holds exactly the rule-legal moves, and no move twice -/
theorem C01_legal (b : Board) (hv : b.Valid K) :
    (∀ m, m ∈ b.getLegalMoves K ↔ Spec.legal b.absPos m = true) ∧ (b.getLegalMoves K).Nodup :=
  ⟨hv.mem_getLegalMoves_iff, getLegalMoves_nodup K b⟩

/-- the separately queryable castling availability names exactly the castling moves of that list -/
theorem C01_castling (b : Board) (hv : b.Valid K) :
    ((b.castlingAvailable none).hasK = true ↔ Move.castle .king ∈ b.getLegalMoves K) ∧
    ((b.castlingAvailable none).hasQ = true ↔ Move.castle .queen ∈ b.getLegalMoves K) := by
  have h (s : Side) : (b.castlingAvailable none).toRights.has s = Spec.legal b.absPos (.castle s) :=
    castlingAvailable_spec hv s
  constructor
  · rw [hv.mem_getLegalMoves_iff, ← h]; rfl
  · rw [hv.mem_getLegalMoves_iff, ← h]; rfl

/-- never a move that leaves or puts the mover's own king in check -/
theorem C01_king_safe (b : Board) (hv : b.Valid K) (m : Move) (hm : m ∈ b.getLegalMoves K) :
    Spec.inCheck (Spec.apply b.absPos m).board b.stm = false := by
  have hl := (hv.mem_getLegalMoves_iff m).1 hm
  have := validPos_apply_notInCheck hl
  rw [apply_stm_f, Color.other_other] at this
  exact this

end Chess

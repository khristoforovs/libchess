import Chess.Props.C06
/-! # C10 (panic freedom) — the constructor path `ChessBoard::try_from(&BoardBuilder)` and the move path
(`is_legal_move`, `make_move`) reach no Rust panic point

The model functions are total, so "never panics" is stated through MIRROR PREDICATES: one Boolean per Rust function on
the path, following the control flow of the model function (= of the Rust function), that is `true` when the evaluation
reaches an `unwrap()`/`to_square()` whose precondition fails (exactly then, but for `panicsHasEscape`, an upper bound):

* (a) `get_king_square(c)` = `to_square()` of `king ∩ colour c` on a blank mask     — `(b.kingSq? c).isNone`
* (b) `BETWEEN.get(sq, attacker).unwrap()` in `get_pins_and_checks`                — `(between sq a).isNone`
* (b') `BETWEEN.get(square, s).unwrap()` in `truncate_rays` (`get_piece_moves_mask`) — `(between sq s).isNone`
* (c) `PieceType::from_index(sum).unwrap()` in `get_piece_type_on`                 — `Board.panicsTypeOn`
      (reached from `clear_square` through `get_piece_on`, hence from `put_piece` on an occupied square, from
      `move_piece`, from `clear_square_if_en_passant_capture`; and from `calculate_position_hash`)
* (d) `get_piece_color_on(source).unwrap()` in `move_piece`                          — `(b.getPieceColorOn src).isNone`
* (e) `destination.down()/up().unwrap()` in `clear_square_if_en_passant_capture`    — `(epVictim c dst).isNone`
* (f) `get_piece_type_on(sq).unwrap()`, `get_piece_color_on(sq).unwrap()` in `calculate_position_hash`

Not covered here (not data dependent or outside this path): `Square::new(i).unwrap()` for `i < 64`, `PieceType::from_index(i)`
for `i < 6`, `PieceMove::new(.., None).unwrap()` (fails only for a promotion piece), `Rank::from_index((s+d)/2)`, and the
arithmetic overflow of the two move counters (`+= 1`, debug builds only; defect K1). -/
namespace Chess
open Board Spec Construct Chess.C17

namespace Board
variable (K : Keys)

/-- (b) `get_pins_and_checks(sq)`: some attacker of the loop has no `BETWEEN` entry -/
def panicsPinsAndChecks (b : Board) (sq : Sq) : Bool :=
  (toList (b.attackersOf sq)).any fun a => (between sq a).isNone

/-- (a)+(b) `update_pins_and_checks`: `get_king_square(side_to_move)`, then `get_pins_and_checks` -/
def panicsUpdatePinsAndChecks (b : Board) : Bool :=
  (b.kingSq? b.stm).isNone || b.panicsPinsAndChecks (b.kingSq b.stm)

/-- (c) `clear_square`: `get_piece_on` → `get_piece_type_on` -/
def panicsClearSquare (b : Board) (s : Sq) : Bool := b.panicsTypeOn s

/-- `put_piece`: `clear_square` is called only on an occupied square -/
def panicsPutPiece (b : Board) (s : Sq) : Bool := !b.isEmptySq s && b.panicsClearSquare s

/-- (d)+(c) `move_piece`: the colour of the man on the source square is unwrapped, the source is cleared, the man is put -/
def panicsMovePiece (b : Board) (src dst : Sq) : Bool :=
  (b.getPieceColorOn src).isNone || b.panicsClearSquare src || (b.clearSquare K src).panicsPutPiece dst

/-- (e)+(c) `clear_square_if_en_passant_capture` -/
def panicsClearIfEp (b : Board) (pt : PT) (dst : Sq) : Bool :=
  b.isEpMove pt dst &&
    (match epVictim b.stm dst with
     | none => true
     | some v => b.panicsClearSquare v)

/-- `get_check_mask_after_piece_move` = `move_piece`, `clear_square_if_en_passant_capture`, `update_pins_and_checks` -/
def panicsCheckMaskAfter (b : Board) (pt : PT) (src dst : Sq) (promo : Option PT) : Bool :=
  b.panicsMovePiece K src dst ||
  (b.movePiece K pt src dst promo).panicsClearIfEp pt dst ||
  ((b.movePiece K pt src dst promo).clearIfEp K pt dst).panicsUpdatePinsAndChecks

/-- (b') one ray of `truncate_rays`: the nearest blocker has no `BETWEEN` entry -/
def panicsRaySeg (b : Board) (sq : Sq) (i : Fin 8) : Bool :=
  match (if i = 0 ∨ i = 2 ∨ i = 4 ∨ i = 5 then lowest (ray sq i &&& b.combined) else highest (ray sq i &&& b.combined)) with
  | none => false
  | some s => (between sq s).isNone

/-- `get_piece_moves_mask` -/
def panicsPieceMovesMask (b : Board) (pt : PT) (sq : Sq) : Bool :=
  match pt with
  | .bishop => bishopDirs.any (b.panicsRaySeg sq)
  | .rook => rookDirs.any (b.panicsRaySeg sq)
  | .queen => queenDirs.any (b.panicsRaySeg sq)
  | _ => false

/-- `update_terminal_status`: the same three nested loops as `Board.hasEscape`.  (Upper bound: the Rust loops stop at
the first escape found; here EVERY iteration is required not to panic.) -/
def panicsHasEscape (b : Board) : Bool :=
  PT.all.any fun pt =>
    (toList (b.colors b.stm &&& b.pieces pt)).any fun sq =>
      b.panicsPieceMovesMask pt sq ||
      (toList (b.pieceMovesMask pt sq)).any fun d => b.panicsCheckMaskAfter K pt sq d none

/-- (f) `calculate_position_hash`: both queries are unwrapped for every member of the occupancy mask -/
def panicsCalcHash (b : Board) : Bool :=
  (toList b.combined).any fun sq =>
    b.panicsTypeOn sq || (b.getPieceTypeOn sq).isNone || (b.getPieceColorOn sq).isNone

/-- `validate`: the if-chain of `Board.validate` (see `Construct.validate_eq`); the panic points are the
`update_pins_and_checks` of the clone with the side to move flipped, and the two `get_king_square` of the rights clause.
Each is reached only when all earlier clauses pass. -/
def panicsValidate (b : Board) : Bool :=
  if !isBlank (b.colors .white &&& b.colors .black) then false else
  if typeOverlap b then false else
  if unionPieces b != b.combined then false else
  if popcount (b.pieces .king &&& b.colors .white) != 1 then false else
  if popcount (b.pieces .king &&& b.colors .black) != 1 then false else
  if (flipped b).panicsUpdatePinsAndChecks then true else
  if popcount (flipped b).updatePinsAndChecks.checks > 0 then false else
  if epBad b then false else
  if (b.kingSq? .white).isNone then true else
  if rightsBad b .white then false else
  (b.kingSq? .black).isNone

/-- the placement loop of `try_from`: `put_piece` for every occupied square of the builder, in order -/
def panicsPutLoop (pcs : Sq → Option Piece) : List Sq → Board → Bool
  | [], _ => false
  | sq :: l, b =>
    (match pcs sq with | some _ => b.panicsPutPiece sq | none => false) ||
    panicsPutLoop pcs l (putStep K pcs b sq)

/-- `TryFrom<&BoardBuilder> for ChessBoard`, in the order of `Board.ofBuilder` (stages `b0 … b3` of `Construct`):
placement loop; the two king-count tests return an error before anything else is evaluated; setters (no panic point);
`update_pins_and_checks`; `calculate_position_hash`; `validate`; and, only when validation passes,
`update_terminal_status`. -/
def panicsOfBuilder (bb : Builder) : Bool :=
  panicsPutLoop K bb.pieces allSq Board.new ||
  (if popcount ((b0 K bb).pieces .king &&& (b0 K bb).colors .white) != 1 then false else
   if popcount ((b0 K bb).pieces .king &&& (b0 K bb).colors .black) != 1 then false else
   ({ b1 K bb with full := bb.full, half := bb.half } : Board).panicsUpdatePinsAndChecks ||
   (b2 K bb).panicsCalcHash ||
   (b3 K bb).panicsValidate ||
   (match (b3 K bb).validate with
    | none => (b3 K bb).panicsHasEscape K
    | some _ => false))

end Board

/-- (b): the attackers selected by the loop are on a line with the target -/
theorem no_panic_pinsAndChecks (b : Board) (sq : Sq) : b.panicsPinsAndChecks sq = false := by
  unfold Board.panicsPinsAndChecks
  rw [List.any_eq_false]
  intro a ha
  rw [mem_toList] at ha
  simp only [Board.attackersOf, mem_and, mem_or, bishop_spec, rook_spec, Bool.and_eq_true, Bool.or_eq_true] at ha
  have hal : aligned sq a = true := by
    rcases ha.2 with h | h
    · simp [aligned, h.1]
    · simp [aligned, h.1]
  -- `between` is defined exactly on aligned pairs
  rw [between_eq_collect, hal]; simp

theorem no_panic_updatePinsAndChecks (b : Board) (hk : (b.kingSq? b.stm).isSome = true) :
    b.panicsUpdatePinsAndChecks = false := by
  unfold Board.panicsUpdatePinsAndChecks
  rw [no_panic_pinsAndChecks]
  cases h : b.kingSq? b.stm with
  | none => rw [h] at hk; exact Bool.noConfusion hk
  | some k => rfl

theorem kingSq?_isSome_of_popcount (b : Board) (c : Color) (h : popcount (b.pieces .king &&& b.colors c) = 1) :
    (b.kingSq? c).isSome = true :=
  Option.isSome_iff_ne_none.2 fun hl => by
    rw [Board.kingSq?, lowest_none] at hl
    rw [hl, (popcount_zero _).2 rfl] at h
    cases h

theorem Rep.panicsClearSquare {b : Board} {f} (h : Rep b f) (s : Sq) : b.panicsClearSquare s = false := h.panicsTypeOn s
theorem Rep.panicsPutPiece {b : Board} {f} (h : Rep b f) (s : Sq) : b.panicsPutPiece s = false := by
  unfold Board.panicsPutPiece; rw [h.panicsClearSquare]; simp

/-- (b'): the blocker found on a ray is on a line with the origin -/
theorem no_panic_raySeg (b : Board) (sq : Sq) (i : Fin 8) : b.panicsRaySeg sq i = false := by
  unfold Board.panicsRaySeg
  split
  · rfl
  · next s hs =>
    have hm : mem s (ray sq i &&& b.combined) = true := by
      split at hs
      · exact ((lowest_some _ s).1 hs).1
      · exact ((highest_some _ s).1 hs).1
    rw [mem_and, Bool.and_eq_true, rays_spec] at hm
    rw [between_eq_collect, PseudoGeo.onRay_aligned i sq s hm.1]; rfl

theorem no_panic_pieceMovesMask (b : Board) (pt : PT) (sq : Sq) : b.panicsPieceMovesMask pt sq = false := by
  unfold Board.panicsPieceMovesMask
  cases pt <;> simp only [List.any_eq_false, no_panic_raySeg] <;> simp

section
variable (K : Keys)

theorem Rep.panicsMovePiece {b : Board} {f} (h : Rep b f) (src dst : Sq) (q : Piece) (hsrc : f src = some q) :
    b.panicsMovePiece K src dst = false := by
  unfold Board.panicsMovePiece
  rw [h.getPieceColorOn, hsrc, h.panicsClearSquare, (h.clearSquare K src).panicsPutPiece]
  rfl

theorem Rep.panicsClearIfEp {b : Board} {f} (h : Rep b f) (pt : PT) (dst : Sq)
    (hvict : b.isEpMove pt dst = true → (Board.epVictim b.stm dst).isSome = true) :
    b.panicsClearIfEp pt dst = false := by
  unfold Board.panicsClearIfEp
  cases hep : b.isEpMove pt dst with
  | false => rfl
  | true =>
    have := hvict hep
    cases hv : Board.epVictim b.stm dst with
    | none => rw [hv] at this; exact Bool.noConfusion this
    | some v => exact h.panicsClearSquare v

theorem no_panic_checkMaskAfter {b : Board} (h : b.Cons) (pt : PT) (src dst : Sq) (promo : Option PT)
    (hsrc : b.abs src = some ⟨pt, b.stm⟩)
    (hvict : b.isEpMove pt dst = true → (Board.epVictim b.stm dst).isSome = true)
    (k : Sq) (hk : Spec.kingSq? (Spec.applyBoard b.absPos (.piece pt src dst promo)) b.stm = some k) :
    b.panicsCheckMaskAfter K pt src dst promo = false := by
  unfold Board.panicsCheckMaskAfter
  have hb : Rep b b.abs := h
  have h1 := hb.movePiece K pt src dst promo _ hsrc
  have hr := h.afterPieceMove K pt src dst promo hsrc
  have hvict' : (b.movePiece K pt src dst promo).isEpMove pt dst = true →
      (Board.epVictim (b.movePiece K pt src dst promo).stm dst).isSome = true := by
    rw [movePiece_isEpMove, (movePiece_state K b pt src dst promo).stm]
    exact hvict
  have hking : (((b.movePiece K pt src dst promo).clearIfEp K pt dst).kingSq?
      ((b.movePiece K pt src dst promo).clearIfEp K pt dst).stm).isSome = true := by
    rw [show ((b.movePiece K pt src dst promo).clearIfEp K pt dst).stm = b.stm from
      (place_state K b (.piece pt src dst promo)).stm, kingSq?_spec hr, hk]
    rfl
  rw [hb.panicsMovePiece K src dst _ hsrc, h1.panicsClearIfEp pt dst hvict', no_panic_updatePinsAndChecks _ hking]
  rfl

end

section
variable (K : Keys)

/-- (e): the en-passant square of a valid position lies on rank 6 / 3, so the square behind it exists -/
theorem epVictim_isSome_of_pos {b : Board} (hp : Spec.ValidPos b.absPos = true) (pt : PT) (dst : Sq)
    (h : b.isEpMove pt dst = true) : (Board.epVictim b.stm dst).isSome = true := by
  rw [isEpMove_eq, Bool.and_eq_true, beq_iff_eq, beq_iff_eq] at h
  obtain ⟨s, hs, _⟩ := ((epOk_iff b.absPos).1 (validPos_epOk hp) dst h.2).2.2.1
  rw [epVictim_eq]
  have e : b.absPos.stm = b.stm := rfl
  rw [fwd_other, ← Int.sub_eq_add_neg, e] at hs
  rw [hs]; rfl

theorem no_panic_checkMaskAfter_of_pos {b : Board} (hc : b.Cons) (hp : Spec.ValidPos b.absPos = true)
    (pt : PT) (src dst : Sq) (promo : Option PT)
    (hsrc : mem src (b.colors b.stm &&& b.pieces pt) = true) (hdst : mem dst (b.pieceMovesMask pt src) = true)
    (hpr : promo ≠ some .king) (hkp : pt = .king → promo = none) :
    b.panicsCheckMaskAfter K pt src dst promo = false := by
  have hs := (srcMem_iff hc pt src).1 hsrc
  have hd : pseudoDest b.absPos pt src dst = true := by
    rw [← pieceMovesMask_absPos hc (ep_empty_of_pos hp) pt src dst hs]; exact hdst
  exact no_panic_checkMaskAfter K hc pt src dst promo hs
    (epVictim_isSome_of_pos hp pt dst) _ (king_after_of_pos hc hp pt src dst promo hd hpr hkp)

theorem no_panic_hasEscape {b : Board} (hc : b.Cons) (hp : Spec.ValidPos b.absPos = true) :
    b.panicsHasEscape K = false := by
  unfold Board.panicsHasEscape
  rw [List.any_eq_false]
  intro pt _
  rw [Bool.not_eq_true, List.any_eq_false]
  intro sq hsq
  rw [mem_toList] at hsq
  rw [no_panic_pieceMovesMask, Bool.false_or, Bool.not_eq_true, List.any_eq_false]
  intro d hd
  rw [mem_toList] at hd
  rw [no_panic_checkMaskAfter_of_pos K hc hp pt sq d none hsq hd (by simp) (fun _ => rfl)]
  simp

end

section
variable (K : Keys)

/-- `validate` reaches no panic point on ANY board: the king-count clauses guard every `get_king_square` -/
theorem no_panic_validate (b : Board) : b.panicsValidate = false := by
  unfold Board.panicsValidate
  by_cases hw : popcount (b.pieces .king &&& b.colors .white) = 1
  · by_cases hb : popcount (b.pieces .king &&& b.colors .black) = 1
    · have hk : (b.kingSq? b.stm.other).isSome = true := by
        cases b.stm
        · exact kingSq?_isSome_of_popcount b _ hb
        · exact kingSq?_isSome_of_popcount b _ hw
      simp only [no_panic_updatePinsAndChecks (flipped b) hk,
        Option.isNone_eq_false_iff.2 (kingSq?_isSome_of_popcount b _ hw),
        Option.isNone_eq_false_iff.2 (kingSq?_isSome_of_popcount b _ hb), Bool.false_eq_true, if_false, ite_self]
    · simp only [bne_iff_ne, ne_eq, hb, not_false_eq_true, if_true, ite_self]
  · simp only [bne_iff_ne, ne_eq, hw, not_false_eq_true, if_true, ite_self]

theorem no_panic_putLoop (pcs : Sq → Option Piece) (l : List Sq) : ∀ (b : Board) (f : Sq → Option Piece), Rep b f →
    Board.panicsPutLoop K pcs l b = false := by
  induction l with
  | nil => intro b f _; rfl
  | cons sq l ih =>
    intro b f h
    unfold Board.panicsPutLoop
    have hstep : ∃ g, Rep (putStep K pcs b sq) g := by
      unfold putStep
      cases pcs sq with
      | none => exact ⟨f, h⟩
      | some p => exact ⟨_, h.putPiece K p sq⟩
    obtain ⟨g, hg⟩ := hstep
    rw [ih _ g hg, h.panicsPutPiece]
    cases pcs sq <;> rfl

theorem Rep.panicsCalcHash {b : Board} {f} (h : Rep b f) : b.panicsCalcHash = false := by
  unfold Board.panicsCalcHash
  rw [List.any_eq_false]
  intro sq hsq
  rw [mem_toList, h.cmb] at hsq
  rw [h.panicsTypeOn, h.getPieceTypeOn, h.getPieceColorOn]
  cases hf : f sq with
  | none => rw [hf] at hsq; exact Bool.noConfusion hsq
  | some p => simp

/-- **C10 (constructor).**  `ChessBoard::try_from(&BoardBuilder)` reaches no panic point, for EVERY builder content
and every key table. -/
theorem C10_ofBuilder_no_panic (bb : Builder) : Board.panicsOfBuilder K bb = false := by
  unfold Board.panicsOfBuilder
  rw [no_panic_putLoop K bb.pieces allSq Board.new _ rep_new, Bool.false_or]
  split
  · rfl
  next hw =>
  split
  · rfl
  next hb =>
  have hw' : popcount ((b0 K bb).pieces .king &&& (b0 K bb).colors .white) = 1 := by simpa using hw
  have hb' : popcount ((b0 K bb).pieces .king &&& (b0 K bb).colors .black) = 1 := by simpa using hb
  -- the setters do not touch the masks, so whichever side is to move has its king
  have hk : (({ b1 K bb with full := bb.full, half := bb.half } : Board).kingSq?
      ({ b1 K bb with full := bb.full, half := bb.half } : Board).stm).isSome = true := by
    rw [kingSq?_spec (b1_rep K bb), ← kingSq?_spec (b0_rep K bb)]
    cases ({ b1 K bb with full := bb.full, half := bb.half } : Board).stm
    · exact kingSq?_isSome_of_popcount _ _ hw'
    · exact kingSq?_isSome_of_popcount _ _ hb'
  rw [no_panic_updatePinsAndChecks _ hk, (b2_rep K bb).panicsCalcHash, no_panic_validate]
  simp only [Bool.false_or]
  cases hval : (b3 K bb).validate with
  | some e => rfl
  | none =>
    have hc := (b3_rep K bb).cons
    exact no_panic_hasEscape K hc ((C09_validate hc).1 hval)

end

section
variable (K : Keys)

/-- `ChessBoard::from_str` / `from_fen`: the parser (`BoardBuilder::from_str`, no `unwrap`; its only indexing is guarded, see
`C10.parseSquare_branch_unreachable`) followed by the constructor -/
def Board.panicsOfFen (s : Str) : Bool :=
  match parseFen s with
  | .ok bb => Board.panicsOfBuilder K bb
  | .error _ => false

/-- **C10 (FEN).**  For every input string, building a board from a FEN text reaches no panic point. -/
theorem C10_ofFen_no_panic (s : Str) :
    (match parseFen s with | .ok bb => Board.panicsOfBuilder K bb | .error _ => false) = false := by
  cases parseFen s with
  | error e => rfl
  | ok bb => exact C10_ofBuilder_no_panic K bb

theorem C10_ofFen_no_panic' (s : Str) : Board.panicsOfFen K s = false := C10_ofFen_no_panic K s

/-- the result is a value or an error: true of every `Except` value, recorded only to state the shape of the result -/
theorem C10_ofFen_total (s : Str) : (∃ b, Board.ofFen K s = .ok b) ∨ (∃ e, Board.ofFen K s = .error e) := by
  cases h : Board.ofFen K s with
  | ok b => exact Or.inl ⟨b, rfl⟩
  | error e => exact Or.inr ⟨e, rfl⟩

/-- `BoardBuilder::setup` followed by the conversion -/
theorem C10_setup_no_panic (pl : List (Sq × Piece)) (stm : Color) (wr br : CR) (ep : Option Sq) (half full : Nat) :
    Board.panicsOfBuilder K (Board.setupBuilder pl stm wr br ep half full) = false := C10_ofBuilder_no_panic K _

end

namespace Board
variable (K : Keys)

/-- `castling_is_available_on_board`: `is_under_attack` = `get_pins_and_checks` on the two transit squares of each wing
(both are evaluated: `&` does not short-circuit) -/
def panicsCastlingAvailable (b : Board) (checkMask : Option BB) : Bool :=
  if !isBlank (checkMask.getD b.checks) then false else
  (if (b.rights b.stm).hasK then b.panicsPinsAndChecks (homeSq b.stm 5) || b.panicsPinsAndChecks (homeSq b.stm 6) else false) ||
  (if (b.rights b.stm).hasQ then b.panicsPinsAndChecks (homeSq b.stm 3) || b.panicsPinsAndChecks (homeSq b.stm 2) else false)

/-- `is_legal_move`, the if-chain of `Board.isLegalMove` -/
def panicsIsLegalMove (b : Board) : Move → Bool
  | .piece pt src dst promo =>
    if b.term then false else
    if isBlank (b.pieces pt &&& b.colors b.stm &&& bbOf src) then false else
    if b.panicsPieceMovesMask pt src then true else
    if isBlank (b.pieceMovesMask pt src &&& bbOf dst) then false else
    if (promo.isSome != (pt == .pawn && dst.rk == promoRank b.stm)) || promo == some .king then false else
    if b.needsFullCheck b.checks pt src dst then b.panicsCheckMaskAfter K pt src dst promo else false
  | .castle _ => if b.term then false else b.panicsCastlingAvailable none

/-- placement stage of `make_move_mut_unchecked` (`Board.place`) -/
def panicsPlace (b : Board) : Move → Bool
  | .piece pt src dst promo => b.panicsMovePiece K src dst || (b.movePiece K pt src dst promo).panicsClearIfEp pt dst
  | .castle .king =>
    b.panicsMovePiece K (homeSq b.stm 4) (homeSq b.stm 6) ||
    (b.movePiece K .king (homeSq b.stm 4) (homeSq b.stm 6) none).panicsMovePiece K (homeSq b.stm 7) (homeSq b.stm 5)
  | .castle .queen =>
    b.panicsMovePiece K (homeSq b.stm 4) (homeSq b.stm 2) ||
    (b.movePiece K .king (homeSq b.stm 4) (homeSq b.stm 2) none).panicsMovePiece K (homeSq b.stm 0) (homeSq b.stm 3)

/-- `make_move_mut_unchecked` = placement, bookkeeping, `update_pins_and_checks`, `update_terminal_status` -/
def panicsMakeMoveUnchecked (b : Board) (m : Move) : Bool :=
  b.panicsPlace K m ||
  ((b.place K m).finishPre K m (b.isCapture m)).panicsUpdatePinsAndChecks ||
  (((b.place K m).finishPre K m (b.isCapture m)).updatePinsAndChecks).panicsHasEscape K

/-- `make_move` / `make_move_mut`: the legality test, then (only for a legal move) the unchecked form -/
def panicsMakeMove (b : Board) (m : Move) : Bool :=
  b.panicsIsLegalMove K m || (if b.isLegalMove K m then b.panicsMakeMoveUnchecked K m else false)

end Board

section
variable (K : Keys)

theorem no_panic_castlingAvailable (b : Board) (cm : Option BB) : b.panicsCastlingAvailable cm = false := by
  unfold Board.panicsCastlingAvailable
  simp only [no_panic_pinsAndChecks, Bool.or_self, ite_self]

/-- `is_legal_move` reaches no panic point for ANY move value offered to a consistent board standing for a valid position -/
theorem no_panic_isLegalMove {b : Board} (hc : b.Cons) (hp : Spec.ValidPos b.absPos = true) (m : Move) :
    b.panicsIsLegalMove K m = false := by
  cases m with
  | castle s =>
    simp only [Board.panicsIsLegalMove]
    rw [no_panic_castlingAvailable]; simp
  | piece pt src dst promo =>
    -- the one panic point is reached only with an own `pt` on `src`, `dst` in its mask and a well-shaped promotion
    simp only [Board.panicsIsLegalMove, no_panic_pieceMovesMask, Bool.false_eq_true, if_false, ite_eq_left_iff,
      ite_eq_right_iff, isBlank_and_bbOf, Bool.not_eq_true, Bool.not_eq_false', Bool.or_eq_false_iff]
    show b.term = false → mem src (b.pieces pt &&& b.colors b.stm) = true → mem dst (b.pieceMovesMask pt src) = true →
      (promo.isSome != (pt == .pawn && dst.rk == promoRank b.stm)) = false ∧ (promo == some .king) = false →
      b.needsFullCheck b.checks pt src dst = true → b.panicsCheckMaskAfter K pt src dst promo = false
    intro _ hsrc hdst hpr _
    refine no_panic_checkMaskAfter_of_pos K hc hp pt src dst promo ?_ hdst ?_ ?_
    · rw [BitVec.and_comm]; exact hsrc
    · intro e; rw [e] at hpr; simp at hpr
    · intro e
      have h1 := hpr.1
      rw [e] at h1
      cases promo with
      | none => rfl
      | some q => simp at h1

/-- the tail of `make_move_mut_unchecked`, given that its result is `Valid` -/
theorem no_panic_tail (bq : Board) (hv : ((bq.updatePinsAndChecks).updateTerminalStatus K).Valid K) :
    bq.panicsUpdatePinsAndChecks = false ∧ (bq.updatePinsAndChecks).panicsHasEscape K = false := by
  -- the two updates write the `pinned`, `checks` and `term` fields only: masks, side to move and king squares of `bq`, of
  -- `bq.updatePinsAndChecks` and of the `Valid` result are the same terms, and facts about one are facts about the others
  constructor
  · obtain ⟨-, -, hking⟩ := C06_kings hv bq.stm
    exact no_panic_updatePinsAndChecks bq hking
  · have hc : Rep (bq.updatePinsAndChecks) ((bq.updatePinsAndChecks).updateTerminalStatus K).abs :=
      ⟨hv.cons.pcs, hv.cons.cls, hv.cons.cmb⟩
    exact no_panic_hasEscape K hc.cons hv.pos

/-- king `e → kt`, then rook `rf → rt`: both `move_piece` calls find their man -/
theorem Rep.panicsCastle {b : Board} {f} (h : Rep b f) (c : Color) (e rf kt rt : Sq)
    (hk : Spec.isColor f c e = true) (hr : Spec.isColor f c rf = true) (h1 : rf ≠ e) (h2 : rf ≠ kt) :
    (b.panicsMovePiece K e kt || (b.movePiece K .king e kt none).panicsMovePiece K rf rt) = false := by
  obtain ⟨qk, hqk, _⟩ := (isColor_iff _ _ _).1 hk
  obtain ⟨qr, hqr, _⟩ := (isColor_iff _ _ _).1 hr
  rw [h.panicsMovePiece K e kt qk hqk,
    (h.movePiece K .king e kt none qk hqk).panicsMovePiece K rf rt qr (by simp [Spec.upd, h1, h2, hqr])]
  rfl

theorem no_panic_place {b : Board} (hc : b.Cons) (hp : Spec.ValidPos b.absPos = true) (m : Move)
    (hm : moverOnSource b.absPos m = true) : b.panicsPlace K m = false := by
  have h : Rep b b.abs := hc
  rcases m with ⟨pt, src, dst, promo⟩ | (_ | _)
  · obtain ⟨q, hq, _⟩ := (isColor_iff _ _ _).1 hm
    have R1 := Rep.movePiece K h pt src dst promo q hq
    have hvict : (b.movePiece K pt src dst promo).isEpMove pt dst = true →
        (Board.epVictim (b.movePiece K pt src dst promo).stm dst).isSome = true := by
      rw [movePiece_isEpMove, (movePiece_state K b pt src dst promo).stm]
      exact epVictim_isSome_of_pos hp pt dst
    simp only [Board.panicsPlace]
    rw [h.panicsMovePiece K src dst q hq, R1.panicsClearIfEp pt dst hvict]
    rfl
  all_goals
    simp only [moverOnSource, Bool.and_eq_true, homeSq_eq] at hm
    simp only [Board.panicsPlace, homeSq_eq]
    exact h.panicsCastle K b.stm _ _ _ _ hm.1 hm.2 hsq_ne hsq_ne

/-- **C10 (unchecked move).**  `make_move_mut_unchecked` reaches no panic point for a LEGAL move of a valid board -/
theorem C10_makeMoveUnchecked_no_panic (b : Board) (hv : b.Valid K) (m : Move) (hm : Spec.legal b.absPos m = true) :
    b.panicsMakeMoveUnchecked K m = false := by
  have hv' : (b.makeMoveUnchecked K m).Valid K := C06_step b hv m hm
  rw [makeMoveUnchecked_eq, Board.finish] at hv'
  obtain ⟨h1, h2⟩ := no_panic_tail K _ hv'
  unfold Board.panicsMakeMoveUnchecked
  rw [no_panic_place K hv.cons hv.pos m (legal_moverOnSource _ _ hm), h1, h2]
  rfl

/-- **C10 (move).**  `make_move` / `make_move_mut` reach no panic point for ANY constructible move value offered to a valid
board (`PieceMove::new` rejects a promotion to a pawn).  That the result is then a value or the illegal-move error is `C03_apply`. -/
theorem C10_makeMove_no_panic (b : Board) (hv : b.Valid K) (m : Move) (hw : ∀ pt s d, m ≠ .piece pt s d (some .pawn)) :
    b.panicsMakeMove K m = false := by
  unfold Board.panicsMakeMove
  rw [no_panic_isLegalMove K hv.cons hv.pos m, Bool.false_or]
  split
  · next hl =>
    exact C10_makeMoveUnchecked_no_panic K b hv m
      ((hv.mem_getLegalMoves_iff m).1 ((hv.isLegalMove_iff m hw).1 hl))
  · rfl

end

/-! ## non-vacuity

The mirror predicates do fire on boards outside the constructor path, and the hypotheses of the move theorems are satisfiable. -/

/-- (a) fires on a board without kings: `update_pins_and_checks` before the king-count test would panic, which is why
`try_from` counts the kings first -/
example : Board.new.panicsUpdatePinsAndChecks = true := by decide +kernel
example (K : Keys) : Board.new.panicsMovePiece K 12 28 = true := by
  have h : (Board.new.getPieceColorOn 12).isNone = true := by decide +kernel
  unfold Board.panicsMovePiece; rw [h]; rfl
example : ({ Board.new with ep := some 3 } : Board).panicsClearIfEp .pawn 3 = true := by decide +kernel
/-- (b) the table has `None` entries: the proof of `no_panic_pinsAndChecks` needs the alignment of the attackers -/
example : (between 0 10).isNone = true := by simp only [between_eq]; decide +kernel

/-- a `Valid` board exists for every key table, so `C10_makeMove_no_panic` is not vacuous -/
example (K : Keys) : ∃ b : Board, b.Valid K ∧ ∀ m : Move, (∀ pt s d, m ≠ .piece pt s d (some .pawn)) →
    b.panicsMakeMove K m = false := by
  obtain ⟨b, hb⟩ := C09_complete K _ C09.sample_valid
  exact ⟨b, (C09_sound K _ b hb).1, fun m hw => C10_makeMove_no_panic K b (C09_sound K _ b hb).1 m hw⟩

end Chess

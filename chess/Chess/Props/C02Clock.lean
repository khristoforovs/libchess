import Chess.Props.C02
import Chess.Props.C09
/-! # C02, the clocks at the machine-word boundary — the formal statement of known finding K1

Known finding **K1** (open; recorded in `/verif/known_findings.txt`): in the Rust source (`/repo/src/chess_boards.rs`) the
half-move clock `moves_since_capture_or_pawn_move` and the full-move number `move_number` are `usize` fields, and
`update_moves_since_capture` / `update_move_number` (called from `make_move_mut_unchecked`) increment them with an unchecked
`+= 1`.  At `usize::MAX` a release build wraps to `0`; a debug build panics.  The rules of chess (`Spec.apply`) count in the
natural numbers.

The model keeps both clocks as unbounded `Nat` (`Board.half`, `Board.full`), so `C02_successor` is a theorem about the
MATHEMATICAL clocks.  This file states where that stops applying to the compiled code: below `usize::MAX` the 64-bit reading
of a move (`Board.makeMoveUnchecked64`) is the model's result; it differs from the rules exactly when a successor clock
reaches `2^64`; and the boundary is real: the two inputs of the repository's known-finding record,
`4k3/8/8/8/8/8/8/R3K3 w - - 18446744073709551615 1` with `Ra1a2` and `4k3/8/8/8/8/8/8/R3K3 b - - 3 18446744073709551615`
with `Ke8d8` (replayed against the real code by `/verif/corpus/C02.ops`, where the run prints them as KNOWN-FINDING K1), are
witnesses for every key table.  Nothing here repairs K1: it stays open. -/
namespace Chess
open Board
variable (K : Keys)

/-- a natural number stored in a 64-bit `usize` with wrapping arithmetic -/
def wrap64 (n : Nat) : Nat := n % 2^64

def Board.wrapClocks (b : Board) : Board := { b with half := wrap64 b.half, full := wrap64 b.full }

/-- What a RELEASE build of `make_move_mut_unchecked` computes on a 64-bit target: the model's result with the two `usize`
clocks wrapped modulo `2^64` (`usize::MAX + 1 = 0`).  Only `update_move_number` and `update_moves_since_capture` do arithmetic on
the clocks, each at most one `+= 1`, and nothing computed afterwards (castling rights, side to move, en-passant square, pins and
checks, terminal flag, hash) reads them, so every other field is the model's.  (A debug build panics instead of wrapping.) -/
def Board.makeMoveUnchecked64 (b : Board) (m : Move) : Board := (b.makeMoveUnchecked K m).wrapClocks

theorem wrap64_lt (n : Nat) : wrap64 n < 2^64 := Nat.mod_lt _ (by decide)
theorem wrap64_of_lt {n : Nat} (h : n < 2^64) : wrap64 n = n := Nat.mod_eq_of_lt h
theorem wrap64_eq_iff (n : Nat) : wrap64 n = n ↔ n < 2^64 :=
  ⟨fun e => e ▸ wrap64_lt n, wrap64_of_lt⟩
theorem wrap64_pow : wrap64 (2^64) = 0 := Nat.mod_self _

@[simp] theorem Board.wrapClocks_half (b : Board) : b.wrapClocks.half = wrap64 b.half := rfl
@[simp] theorem Board.wrapClocks_full (b : Board) : b.wrapClocks.full = wrap64 b.full := rfl

theorem Board.wrapClocks_eq_iff (b : Board) : b.wrapClocks = b ↔ (b.half < 2^64 ∧ b.full < 2^64) := by
  constructor
  · intro e
    exact ⟨(wrap64_eq_iff _).1 (congrArg Board.half e), (wrap64_eq_iff _).1 (congrArg Board.full e)⟩
  · rintro ⟨hh, hf⟩
    cases b
    simp only [Board.wrapClocks, wrap64_of_lt hh, wrap64_of_lt hf]

theorem Board.wrapClocks_absPos_eq_iff (b : Board) :
    b.wrapClocks.absPos = b.absPos ↔ (b.half < 2^64 ∧ b.full < 2^64) :=
  ⟨fun e => ⟨(wrap64_eq_iff _).1 (congrArg Spec.Pos.half e), (wrap64_eq_iff _).1 (congrArg Spec.Pos.full e)⟩,
    fun h => by rw [(Board.wrapClocks_eq_iff b).2 h]⟩

theorem makeMoveUnchecked_half_le (b : Board) (m : Move) : (b.makeMoveUnchecked K m).half ≤ b.half + 1 := by
  have hp : (b.place K m).half = b.half := (place_state K b m).half
  rw [makeMoveUnchecked_eq, finish_eq]
  dsimp only
  split <;> omega

theorem makeMoveUnchecked_full_le (b : Board) (m : Move) : (b.makeMoveUnchecked K m).full ≤ b.full + 1 := by
  have hp : (b.place K m).full = b.full := (place_state K b m).full
  rw [makeMoveUnchecked_eq, finish_eq]
  dsimp only
  split <;> omega

theorem makeMoveUnchecked64_eq_of_lt (b : Board) (m : Move) (hh : b.half < 2^64 - 1) (hf : b.full < 2^64 - 1) :
    b.makeMoveUnchecked64 K m = b.makeMoveUnchecked K m := by
  have h1 := makeMoveUnchecked_half_le K b m
  have h2 := makeMoveUnchecked_full_le K b m
  exact (Board.wrapClocks_eq_iff _).2 ⟨by omega, by omega⟩

set_option linter.unusedVariables false in
/-- C02, clocks: with both clocks below `usize::MAX` the 64-bit reading of a move is the model's result.  (Stated under the
hypotheses of `C02_successor`; `makeMoveUnchecked64_eq_of_lt` shows that `hv` and `hm` are not needed for this step.) -/
theorem C02_clocks_fit (b : Board) (hv : b.Valid K) (m : Move) (hm : Spec.legal b.absPos m = true)
    (hh : b.half < 2^64 - 1) (hf : b.full < 2^64 - 1) :
    b.makeMoveUnchecked64 K m = b.makeMoveUnchecked K m :=
  makeMoveUnchecked64_eq_of_lt K b m hh hf

/-- C02 for the machine reading: below the boundary a legal move produces exactly the successor position the rules define -/
theorem C02_successor64 (b : Board) (hv : b.Valid K) (m : Move) (hm : Spec.legal b.absPos m = true)
    (hh : b.half < 2^64 - 1) (hf : b.full < 2^64 - 1) :
    (b.makeMoveUnchecked64 K m).absPos = Spec.apply b.absPos m := by
  rw [C02_clocks_fit K b hv m hm hh hf]; exact (C02_successor K b hv m hm).1

/-- K1, exactly: the machine reading stands for the successor position of the rules exactly when both successor clocks of
the rules are below `2^64` -/
theorem K1_exactly_spec (b : Board) (hv : b.Valid K) (m : Move) (hm : Spec.legal b.absPos m = true) :
    (b.makeMoveUnchecked64 K m).absPos = Spec.apply b.absPos m ↔
      ((Spec.apply b.absPos m).half < 2^64 ∧ (Spec.apply b.absPos m).full < 2^64) := by
  rw [← (C02_successor K b hv m hm).1]
  exact Board.wrapClocks_absPos_eq_iff _

/-- `4k3/8/8/8/8/8/8/R3K3 <stm> - - <half> <full>`: white Ke1, Ra1; black Ke8; no castling rights -/
def K1.builder (stm : Color) (half full : Nat) : Builder :=
  { pieces := fun s =>
      if s = 4 then some ⟨.king, .white⟩ else if s = 0 then some ⟨.rook, .white⟩
      else if s = 60 then some ⟨.king, .black⟩ else none,
    stm := stm, rights := fun _ => .neither, ep := none, half := half, full := full }

/-- `4k3/8/8/8/8/8/8/R3K3 w - - 18446744073709551615 1` -/
def K1.halfBuilder : Builder := K1.builder .white (2^64 - 1) 1
/-- `4k3/8/8/8/8/8/8/R3K3 b - - 3 18446744073709551615` -/
def K1.fullBuilder : Builder := K1.builder .black 3 (2^64 - 1)

/-- the exponent notation above denotes the decimal text of the record -/
example : K1.halfBuilder.half = 18446744073709551615 ∧ K1.fullBuilder.full = 18446744073709551615 := by decide +kernel

theorem K1.halfBuilder_valid : Spec.ValidPos K1.halfBuilder.toPos = true := by decide +kernel
theorem K1.fullBuilder_valid : Spec.ValidPos K1.fullBuilder.toPos = true := by decide +kernel

/-- Ra1a2 is legal in the first position, and the rules put the half-move clock at `2^64` -/
theorem K1.half_spec :
    Spec.legal K1.halfBuilder.toPos (.piece .rook 0 8 none) = true ∧
    (Spec.apply K1.halfBuilder.toPos (.piece .rook 0 8 none)).half = 2^64 := by decide +kernel

/-- Ke8d8 is legal in the second position, and the rules put the full-move number at `2^64` -/
theorem K1.full_spec :
    Spec.legal K1.fullBuilder.toPos (.piece .king 60 59 none) = true ∧
    (Spec.apply K1.fullBuilder.toPos (.piece .king 60 59 none)).full = 2^64 := by decide +kernel

theorem K1.witness (bb : Builder) (hbb : Spec.ValidPos bb.toPos = true) (m : Move) (hm : Spec.legal bb.toPos m = true) :
    ∃ b : Board, b.Valid K ∧ b.absPos = bb.toPos ∧ Spec.legal b.absPos m = true ∧
      (b.makeMoveUnchecked K m).absPos = Spec.apply bb.toPos m := by
  obtain ⟨b, hb⟩ := C09_complete K _ hbb
  obtain ⟨hv, habs⟩ := C09_sound K _ b hb
  have hl : Spec.legal b.absPos m = true := by rw [habs]; exact hm
  exact ⟨b, hv, habs, hl, habs ▸ (C02_successor K b hv m hl).1⟩

/-- K1, half-move clock: for every key table there is a `Valid` board with clock `usize::MAX` and a legal quiet move on which
the 64-bit reading gives clock `0` where the rules give `2^64` -/
theorem K1_half_witness : ∃ (b : Board) (m : Move), b.Valid K ∧ Spec.legal b.absPos m = true ∧ b.half = 2^64 - 1 ∧
    (b.makeMoveUnchecked64 K m).half = 0 ∧ (Spec.apply b.absPos m).half = 2^64 := by
  obtain ⟨b, hv, habs, hl, hs⟩ := K1.witness K _ K1.halfBuilder_valid _ K1.half_spec.1
  refine ⟨b, _, hv, hl, congrArg Spec.Pos.half habs, ?_, habs ▸ K1.half_spec.2⟩
  -- the machine reading is `wrap64` of the model's clock, which `hs` and `K1.half_spec` put at `2^64`
  exact (congrArg wrap64 ((congrArg Spec.Pos.half hs).trans K1.half_spec.2)).trans wrap64_pow

/-- K1, full-move number: likewise with Black to move and move number `usize::MAX` -/
theorem K1_full_witness : ∃ (b : Board) (m : Move), b.Valid K ∧ Spec.legal b.absPos m = true ∧ b.stm = .black ∧
    b.full = 2^64 - 1 ∧ (b.makeMoveUnchecked64 K m).full = 0 ∧ (Spec.apply b.absPos m).full = 2^64 := by
  obtain ⟨b, hv, habs, hl, hs⟩ := K1.witness K _ K1.fullBuilder_valid _ K1.full_spec.1
  refine ⟨b, _, hv, hl, congrArg Spec.Pos.stm habs, congrArg Spec.Pos.full habs, ?_, habs ▸ K1.full_spec.2⟩
  exact (congrArg wrap64 ((congrArg Spec.Pos.full hs).trans K1.full_spec.2)).trans wrap64_pow

/-- consequently the machine reading of these moves is NOT the successor position of the rules (so the hypotheses
`hh`, `hf` of `C02_successor64` cannot be dropped) -/
theorem K1_not_successor : ∃ (b : Board) (m : Move), b.Valid K ∧ Spec.legal b.absPos m = true ∧
    (b.makeMoveUnchecked64 K m).absPos ≠ Spec.apply b.absPos m := by
  obtain ⟨b, m, hv, hl, _, h0, hs⟩ := K1_half_witness K
  refine ⟨b, m, hv, hl, fun e => ?_⟩
  have : (b.makeMoveUnchecked64 K m).half = (Spec.apply b.absPos m).half := congrArg Spec.Pos.half e
  rw [h0, hs] at this
  exact absurd this (by decide)

end Chess

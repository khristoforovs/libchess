import Chess.Lemmas.LegalJoin
import Chess.Lemmas.Status
import Chess.Lemmas.LegalMoves
/-! # C04 — terminal flag and status classification -/
namespace Chess
open Board Spec
variable {K : Keys}

/-- the position is reported terminal iff the side to move has no legal move (castling included: an available castling implies
a legal king step, `castle_implies_king_step`) -/
theorem C04_terminal (b : Board) (hv : b.Valid K) : b.term = true ↔ ∀ m, Spec.legal b.absPos m = false := hv.term_iff

theorem C04_terminal_list (b : Board) (hv : b.Valid K) : b.term = true ↔ b.getLegalMoves K = [] := by
  rw [C04_terminal b hv, List.eq_nil_iff_forall_not_mem]
  exact forall_congr' fun m => by rw [hv.mem_getLegalMoves_iff, Bool.not_eq_true]

theorem C04_terminal_spec (b : Board) (hv : b.Valid K) : b.term = (Spec.legalMoves b.absPos).isEmpty := by
  rw [Bool.eq_iff_iff, C04_terminal b hv, legalMoves_isEmpty_iff]

/-- C04: the status is checkmate of the side to move iff terminal and in check, stalemate iff terminal and not in check,
otherwise insufficient material iff each side has only a king or a king plus a single bishop or knight, otherwise fifty-move
iff the half-move clock is at least 100, otherwise ongoing — `Spec.status` spells exactly that out -/
theorem C04_status (b : Board) (hv : b.Valid K) : statusToSpec b.getStatus = Spec.status b.absPos :=
  getStatus_spec hv (C04_terminal_spec b hv)

end Chess

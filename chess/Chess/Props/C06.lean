import Chess.Lemmas.LegalJoin
import Chess.Lemmas.SpecInv
import Chess.Props.C07
/-! # C06 — board representation invariants hold in every reachable position

`Board.Valid K b` spells out the invariant: the masks encode one placement (`Cons`: colour masks disjoint, type masks pairwise
disjoint, unions = occupancy — `C06_masks`), the position satisfies `Spec.ValidPos` (one king each, the side that just moved not in
check, held rights have king and rook at home, en-passant clauses), and the cached check/pin masks, terminal flag and hash equal
their recomputation.  Constructors establish it (C09); every legal move preserves it (`C06_step`); hence it holds in every
reachable position (`C06_reachable`, induction over the move list). -/
namespace Chess
open Board Spec
variable {K : Keys}

theorem C06_step (b : Board) (hv : b.Valid K) (m : Move) (hm : Spec.legal b.absPos m = true) :
    (b.makeMoveUnchecked K m).Valid K := by
  obtain ⟨habs, hcons⟩ := C02_successor K b hv m hm
  have hpos := validPos_apply b.absPos hv.pos m hm
  have hhash := C07_incremental K b hv.cons hv.hash_eq m
  rw [← habs] at hpos
  -- the move ends with the tail of `try_from` (check and pin masks, terminal flag) run on the board `finishPre` leaves;
  -- C02 gives that board's masks and position, C07 its hash
  rw [makeMoveUnchecked_eq, Board.finish] at hcons hpos hhash ⊢
  exact .of_tail K (b := (b.place K m).finishPre K m (b.isCapture m)) (Rep.of_masks hcons rfl rfl rfl) hpos hhash

/-- the same through the checked form.  `hw`: `m` is a representable move value (the Rust move constructor rejects promotion
to a pawn, which `is_legal_move` itself does not test) -/
theorem C06_step_checked (b b' : Board) (hv : b.Valid K) (m : Move) (hw : ∀ pt s d, m ≠ .piece pt s d (some .pawn))
    (h : b.makeMove K m = .ok b') : b'.Valid K := by
  obtain ⟨hl, rfl⟩ := (C02_pure_iff K b b' m).1 h
  exact C06_step b hv m ((hv.isLegalMove_eq_legal m hw).symm.trans hl)

theorem C06_reachable (ms : List Move) : ∀ (b : Board), b.Valid K → LegalSeq b.absPos ms →
    (ms.foldl (fun b m => b.makeMoveUnchecked K m) b).Valid K := by
  induction ms with
  | nil => intro b hv _; exact hv
  | cons m ms ih =>
    intro b hv hl
    obtain ⟨hm, hrest⟩ := hl
    simp only [List.foldl_cons]
    apply ih _ (C06_step b hv m hm)
    rw [(C02_successor K b hv m hm).1]; exact hrest

theorem C06_reachable_from_builder (bb : Builder) (b0 : Board) (h0 : Board.ofBuilder K bb = .ok b0) (ms : List Move)
    (hl : LegalSeq b0.absPos ms) : (ms.foldl (fun b m => b.makeMoveUnchecked K m) b0).Valid K :=
  C06_reachable ms b0 (C09_sound K bb b0 h0).1 hl

theorem C06_masks {b : Board} (hv : b.Valid K) :
    b.colors .white &&& b.colors .black = 0#64 ∧
    (∀ t u : PT, t ≠ u → b.pieces t &&& b.pieces u = 0#64) ∧
    (b.pieces .pawn ||| b.pieces .knight ||| b.pieces .bishop ||| b.pieces .rook ||| b.pieces .queen ||| b.pieces .king) = b.combined ∧
    (b.colors .white ||| b.colors .black) = b.combined := by
  have h : Rep b b.abs := hv.cons
  refine ⟨(isBlank_iff _).1 h.colors_disjoint, fun t u htu => (isBlank_iff _).1 (h.pieces_disjoint t u htu), ?_, ?_⟩
  · simpa [Construct.unionPieces, PT.all] using Construct.unionPieces_eq h
  · apply bb_ext; intro s
    simp only [mem_or, h.cls, h.cmb]
    rcases b.abs s with _ | ⟨pt, c⟩
    · rfl
    · cases c <;> rfl

theorem C06_queries {b : Board} (hv : b.Valid K) (s : Sq) :
    b.getPieceOn s = b.abs s ∧ b.getPieceTypeOn s = (b.abs s).map (·.pt) ∧ b.getPieceColorOn s = (b.abs s).map (·.c) ∧
    b.isEmptySq s = (b.abs s).isNone ∧ b.panicsTypeOn s = false ∧
    (∀ t, mem s (b.pieces t) = true ↔ ∃ c, b.abs s = some ⟨t, c⟩) ∧ (∀ c, mem s (b.colors c) = true ↔ ∃ t, b.abs s = some ⟨t, c⟩) ∧
    (mem s b.combined = true ↔ (b.abs s).isSome = true) := by
  have h : Rep b b.abs := hv.cons
  refine ⟨h.getPieceOn s, h.getPieceTypeOn s, h.getPieceColorOn s, h.isEmptySq s, ?_, ?_, ?_, ?_⟩
  · exact h.panicsTypeOn s
  · intro t; rw [h.pcs]
    cases b.abs s with
    | none => simp
    | some p => obtain ⟨pt, c⟩ := p; simp
  · intro c; rw [h.cls]
    cases b.abs s with
    | none => simp
    | some p => obtain ⟨pt, c'⟩ := p; simp
  · rw [h.cmb]

theorem C06_kings {b : Board} (hv : b.Valid K) (c : Color) :
    b.abs (b.kingSq c) = some ⟨.king, c⟩ ∧ (∀ s, b.abs s = some ⟨.king, c⟩ → s = b.kingSq c) ∧ (b.kingSq? c).isSome = true := by
  obtain ⟨hk, hkk, hu⟩ := hv.cons.theKing hv.pos c
  refine ⟨hkk, hu, ?_⟩
  rw [kingSq?_spec hv.cons c, hk]
  rfl

theorem C06_position {b : Board} (hv : b.Valid K) :
    Spec.inCheck b.abs b.stm.other = false ∧ Spec.rightsOk b.absPos .white = true ∧ Spec.rightsOk b.absPos .black = true ∧
    Spec.epOk b.absPos = true := by
  obtain ⟨_, h3, h4, h6⟩ := (validPos_iff b.absPos).1 hv.pos
  exact ⟨h3, h4 .white, h4 .black, h6⟩

end Chess

import Chess.Props.C14
import Chess.Props.C04
import Chess.Props.C06
/-! # C14 — refinement: the model's SAN text is the declarative standard SAN (`Spec.san`)

The record of a legal move is `Board.stdProps` (`Board.moveProps_eq`); its flags are what the rules give
(`stdProps_flags`) and its text is the declarative one (`sanText_stdProps`), part by part.  `C14_refines` and its variants
differ in how legality is given. -/
namespace Chess
open Board

theorem fileCh_eq (s : Sq) : Spec.fileCh s = fileChar s.fl := rfl
theorem rankCh_eq (s : Sq) : Spec.rankCh s = rankChar s.rk := rfl

theorem sqStr_toList (s : Sq) : (Spec.sqStr s).toList = printSquare s := by
  simp only [Spec.sqStr, String.toList_ofList, printSquare, fileCh_eq, rankCh_eq]

theorem ptLetter_toList (t : PT) : (Spec.ptLetter t).toList = sanL t := by
  cases t <;> decide

theorem stdProps_flags {K : Keys} {b : Board} (hv : b.Valid K) (m : Move) (hl : Spec.legal b.absPos m = true) :
    (b.stdProps K m).isCheck = Spec.givesCheck b.absPos m ∧ (b.stdProps K m).isMate = Spec.givesMate b.absPos m ∧
    (b.stdProps K m).isCapture = Spec.isCapture b.absPos m := by
  have hv' := C06_step (K := K) b hv m hl
  have habs := (C02_successor K b hv m hl).1
  have hchk : decide (popcount (b.makeMoveUnchecked K m).checks > 0) = Spec.givesCheck b.absPos m := by
    rw [decide_popcount_pos, hv'.inCheck_eq, habs]
    rfl
  refine ⟨hchk, ?_, hv.cons.isCapture m⟩
  show ((b.makeMoveUnchecked K m).term && _) = _
  rw [hchk, C04_terminal_spec (K := K) _ hv', habs, Bool.and_comm]
  -- `givesMate` is, by definition, check and no legal move in the successor
  rfl

theorem suffix_toList {K : Keys} {b : Board} (hv : b.Valid K) (m : Move) (hl : Spec.legal b.absPos m = true) :
    (Spec.suffix b.absPos m).toList = sanC (b.stdProps K m) := by
  obtain ⟨hc, hm, -⟩ := stdProps_flags hv m hl
  rw [sanC, sanChk, hc, hm]
  unfold Spec.suffix Spec.givesMate Spec.givesCheck
  simp only []
  cases Spec.inCheck (Spec.apply b.absPos m).board (Spec.apply b.absPos m).stm <;>
    cases (Spec.legalMoves (Spec.apply b.absPos m)).isEmpty <;> decide

theorem capture_toList {b : Board} (hc : b.Cons) (m : Move) :
    (if Spec.isCapture b.absPos m then "x" else "").toList = sanX (b.isCapture m) := by
  rw [hc.isCapture m, sanX]
  cases Spec.isCapture b.absPos m <;> decide

theorem rivals_mem_iff (K : Keys) (b : Board) (hv : b.Valid K) (pt : PT) (src dst : Sq) (hp : pt ≠ .pawn) (s : Sq) :
    s ∈ b.rivals K pt src dst ↔ s ∈ Spec.rivals b.absPos pt src dst := by
  rw [mem_rivals]
  unfold Spec.rivals
  rw [List.mem_filter]
  simp only [allSq, List.mem_finRange, true_and, Bool.and_eq_true, bne_iff_ne, ne_eq]
  constructor
  · rintro ⟨hne, pr, hm⟩
    have hl := (hv.mem_getLegalMoves_iff _).1 hm
    have := spec_legal_nonpawn_promo _ _ _ _ _ hp hl
    subst this
    exact ⟨hne, hl⟩
  · rintro ⟨hne, hl⟩
    exact ⟨hne, none, (hv.mem_getLegalMoves_iff _).2 hl⟩

def ambToDisamb : Amb → Spec.Disamb
  | .neither => .none | .extraFile => .file | .extraRank => .rank | .extraSquare => .both

/-- the standard choice depends only on the set of rivals -/
theorem ambKind_set (R R' : List Sq) (src : Sq) (hR : ∀ s, s ∈ R ↔ s ∈ R') :
    (if R'.isEmpty then Spec.Disamb.none
     else if R'.all (fun s => s.file != src.file) then .file
     else if R'.all (fun s => s.rank != src.rank) then .rank
     else .both) = ambToDisamb (ambKind R src) := by
  have e1 : R'.isEmpty = R.isEmpty := by
    rw [Bool.eq_iff_iff, List.isEmpty_iff, List.isEmpty_iff, List.eq_nil_iff_forall_not_mem,
      List.eq_nil_iff_forall_not_mem]
    exact ⟨fun h a ha => h a ((hR a).1 ha), fun h a ha => h a ((hR a).2 ha)⟩
  unfold ambKind
  simp only [e1, all_congr_of_mem_iff hR, Sq.file_bne, Sq.rank_bne]
  cases R.isEmpty <;> cases R.all (fun s => s.fl != src.fl) <;> cases R.all (fun s => s.rk != src.rk) <;> rfl

theorem disamb_eq (K : Keys) (b : Board) (hv : b.Valid K) (pt : PT) (src dst : Sq) (promo : Option PT) :
    Spec.disamb b.absPos pt src dst = ambToDisamb (b.stdAmb K (.piece pt src dst promo)) := by
  by_cases hp : pt = .pawn
  · subst hp
    rw [stdAmb_pawn]
    simp only [Spec.disamb, Sq.file_bne, bne_iff_ne]
    split <;> rfl
  by_cases hk : pt = .king
  · subst hk
    rfl
  rw [stdAmb_other K b hp hk, ← ambKind_set _ _ src (rivals_mem_iff K b hv pt src dst hp)]
  -- `Spec.disamb` matches on `pt` before it looks at the rivals
  cases pt <;> first | rfl | contradiction

/-- the two `match` parts of `Spec.san`, named -/
def disambStr (d : Spec.Disamb) (src : Sq) : String :=
  match d with
  | .none => "" | .file => String.ofList [Spec.fileCh src] | .rank => String.ofList [Spec.rankCh src]
  | .both => Spec.sqStr src
def promoStr (promo : Option PT) : String := match promo with | some x => "=" ++ Spec.ptLetter x | none => ""

theorem san_piece_toList (q : Spec.Pos) (pt : PT) (src dst : Sq) (promo : Option PT) :
    (Spec.san q (.piece pt src dst promo)).toList =
      (Spec.ptLetter pt).toList ++ (disambStr (Spec.disamb q pt src dst) src).toList ++
      (if Spec.isCapture q (.piece pt src dst promo) then "x" else "").toList ++ (Spec.sqStr dst).toList ++
      (promoStr promo).toList ++ (Spec.suffix q (.piece pt src dst promo)).toList := by
  simp only [Spec.san, String.toList_append]
  cases Spec.disamb q pt src dst <;> cases promo <;> rfl

theorem disamb_toList (a : Amb) (src : Sq) : (disambStr (ambToDisamb a) src).toList = sanD a src := by
  cases a <;> simp only [disambStr, ambToDisamb, sanD, String.toList_ofList, fileCh_eq, rankCh_eq, sqStr_toList] <;> rfl

theorem promo_toList (promo : Option PT) (hw : promo ≠ some .pawn) : (promoStr promo).toList = sanP promo := by
  cases promo with
  | none => decide
  | some t => cases t <;> first | exact absurd rfl hw | decide

theorem moveProps_spec_legal (K : Keys) (b : Board) (hv : b.Valid K) (m : Move) (p : MoveProps)
    (hw : ∀ pt s d, m ≠ .piece pt s d (some .pawn)) (h : b.moveProps K m = .ok p) :
    Spec.legal b.absPos m = true :=
  (hv.mem_getLegalMoves_iff m).1 ((hv.isLegalMove_iff m hw).1 (moveProps_inv K b m p h).1)

theorem sanText_stdProps {K : Keys} {b : Board} (hv : b.Valid K) (m : Move) (hl : Spec.legal b.absPos m = true) :
    sanText m (b.stdProps K m) = (Spec.san b.absPos m).toList := by
  have hs := suffix_toList hv m hl
  cases m with
  | castle s =>
    rw [sanText_castle]
    cases s <;> simp only [Spec.san, String.toList_append, hs] <;> rfl
  | piece pt src dst promo =>
    have hw : promo ≠ some .pawn := fun e => spec_legal_constructible hl pt src dst (e ▸ rfl)
    rw [sanText_piece, san_piece_toList, hs, ptLetter_toList, sqStr_toList, capture_toList hv.cons,
      disamb_eq K b hv pt src dst promo, disamb_toList, promo_toList promo hw]
    rfl

theorem C14_refines_spec (K : Keys) (b : Board) (hv : b.Valid K) (m : Move) (p : MoveProps)
    (hm : Spec.legal b.absPos m = true) (h : b.moveProps K m = .ok p) : sanText m p = (Spec.san b.absPos m).toList := by
  rw [((moveProps_ok_iff K).1 h).2]
  exact sanText_stdProps hv m hm

/-- **C14 (standard form).**  The text printed by the model for a move with notation properties is the declarative standard SAN of the
move in the position the board encodes.  `hw` excludes the one move value (promotion *to a pawn*, not constructible by
`PieceMove::new`) that the legality test accepts but the rules do not. -/
theorem C14_refines (K : Keys) (b : Board) (hv : b.Valid K) (m : Move) (p : MoveProps)
    (hw : ∀ pt s d, m ≠ .piece pt s d (some .pawn))
    (h : b.moveProps K m = .ok p) : sanText m p = (Spec.san b.absPos m).toList :=
  C14_refines_spec K b hv m p (moveProps_spec_legal K b hv m p hw h) h

/-- the same for a generated move: no side condition is needed -/
theorem C14_refines_legal (K : Keys) (b : Board) (hv : b.Valid K) (m : Move) (p : MoveProps)
    (hm : m ∈ b.getLegalMoves K) (h : b.moveProps K m = .ok p) : sanText m p = (Spec.san b.absPos m).toList :=
  C14_refines_spec K b hv m p ((hv.mem_getLegalMoves_iff m).1 hm) h

theorem C14_refines_all (K : Keys) (b : Board) (hv : b.Valid K) (m : Move) (hm : m ∈ b.getLegalMoves K) :
    ∃ p, b.moveProps K m = .ok p ∧ sanText m p = (Spec.san b.absPos m).toList := by
  have hl := (hv.mem_getLegalMoves_iff m).1 hm
  have hp := moveProps_legal K ((hv.isLegalMove_iff m (spec_legal_constructible hl)).2 hm)
  exact ⟨_, hp, C14_refines_spec K b hv m _ hl hp⟩

/-- `hw` cannot be dropped from `C14_refines`: on a move that promotes to a pawn (accepted by the legality test of the
library when a pawn can reach the last rank) the model prints `=P`, the declarative text has a bare `=` — the two texts
differ whatever the position and the properties. -/
theorem C14_pawn_promo_differs (q : Spec.Pos) (pt : PT) (s d : Sq) (p : MoveProps) :
    sanText (.piece pt s d (some .pawn)) p ≠ (Spec.san q (.piece pt s d (some .pawn))).toList := by
  intro e
  rw [sanText_piece, san_piece_toList, sqStr_toList] at e
  -- read from the end, where the texts have fixed shapes: after the check suffix the model has `P`, `=`, the rules `=` and
  -- then a rank character; with suffixes of different length one of these meets `+` or `#`
  have e := congrArg List.reverse e
  have hsuf : (Spec.suffix q (.piece pt s d (some .pawn))).toList = [] ∨
      (Spec.suffix q (.piece pt s d (some .pawn))).toList = ['+'] ∨
      (Spec.suffix q (.piece pt s d (some .pawn))).toList = ['#'] := by
    unfold Spec.suffix
    dsimp only
    cases Spec.inCheck _ _ <;> cases (Spec.legalMoves _).isEmpty <;> simp
  have hP : (promoStr (some PT.pawn)).toList = ['='] := by decide
  rw [hP] at e
  simp only [List.reverse_append, sanP, printSquare, PT.letter] at e
  rcases sanChk_cases p.isMate p.isCheck with h1 | h1 | h1 <;> rcases hsuf with h2 | h2 | h2 <;>
    rw [sanC, h1, h2] at e <;> simp at e

end Chess

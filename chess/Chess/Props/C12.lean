import Chess.Lemmas.GameReach
/-! # C12 — game action protocol and result bookkeeping (M1 level)

`Game.act` is the model of `Game::make_move`; a rejected action returns `.error` and no new state (the Rust
mutates in place; "rejected leaves everything unchanged" is observed by the correspondence run on position,
history, counters, status and tag).  Statements below are the property text, clause by clause. -/
namespace Chess.C12
open Chess Chess.Game

variable (K : Keys)

theorem finished_rejects (g : Game) (a : Action) (h : finished g.status = true) : g.act K a = .error .gameFinished := by
  cases a with
  | move m =>
    rw [act_move, if_neg (by rintro hs; rw [hs] at h; cases h), if_pos h]
  | _ =>
    rw [act_nonmove K g _ (by simp), if_pos h]
    cases hs : g.status <;> simp_all [accepts, finished]

/-- the notation properties of a legal move exist on the board it is legal on (`GameHistory::push` unwraps them on the LAST
HISTORY position: that this is the same board is `C10_last_position`) -/
theorem moveProps_ok (b : Board) (m : Move) (hl : b.isLegalMove K m = true) : ∃ mp, b.moveProps K m = .ok mp :=
  ⟨_, Board.moveProps_legal K hl⟩

/-! ## while ongoing: exactly legal moves, draw offers and resignations are accepted -/
theorem ongoing_move (g : Game) (m : Move) (h : g.status = .ongoing) :
    (∃ g', g.act K (.move m) = .ok g') ↔ g.position.isLegalMove K m = true := by
  rw [act_move, if_pos h]
  cases g.position.isLegalMove K m <;> simp

theorem ongoing_illegal_move (g : Game) (m : Move) (h : g.status = .ongoing) (hl : g.position.isLegalMove K m = false) :
    g.act K (.move m) = .error .illegalAction := by
  rw [act_move, if_pos h, hl]
  rfl

theorem ongoing_offer (g : Game) (c : Color) (h : g.status = .ongoing) :
    ∃ g', g.act K (.offerDraw c) = .ok g' ∧ g'.status = .drawOffered c ∧ g'.position = g.position ∧ g'.history = g.history :=
  ⟨_, act_accepted K (by rw [h]; rfl), by simp, by simp, by simp⟩
theorem ongoing_resign (g : Game) (c : Color) (h : g.status = .ongoing) :
    ∃ g', g.act K (.resign c) = .ok g' ∧ g'.status = .resigned c ∧ g'.position = g.position ∧ g'.history = g.history :=
  ⟨_, act_accepted K (by rw [h]; rfl), by simp, by simp, by simp⟩
theorem ongoing_accept_decline (g : Game) (h : g.status = .ongoing) :
    g.act K .acceptDraw = .error .illegalAction ∧ g.act K .declineDraw = .error .illegalAction := by
  rw [act_nonmove K g _ (by simp), act_nonmove K g _ (by simp), h]
  exact ⟨rfl, rfl⟩

/-! ## while an offer is pending: exactly accept, decline and resignation are accepted -/
theorem pending_accept (g : Game) (c : Color) (h : g.status = .drawOffered c) :
    ∃ g', g.act K .acceptDraw = .ok g' ∧ g'.status = .drawAccepted ∧ g'.position = g.position ∧ g'.history = g.history :=
  ⟨_, act_accepted K (by rw [h]; rfl), by simp, by simp, by simp⟩
theorem pending_decline (g : Game) (c : Color) (h : g.status = .drawOffered c) :
    ∃ g', g.act K .declineDraw = .ok g' ∧ g'.status = .ongoing ∧ g'.position = g.position ∧ g'.history = g.history :=
  ⟨_, act_accepted K (by rw [h]; rfl), by simp, by simp, by simp⟩
theorem pending_resign (g : Game) (c d : Color) (h : g.status = .drawOffered c) :
    ∃ g', g.act K (.resign d) = .ok g' ∧ g'.status = .resigned d ∧ g'.position = g.position ∧ g'.history = g.history :=
  ⟨_, act_accepted K (by rw [h]; rfl), by simp, by simp, by simp⟩
theorem pending_rejects (g : Game) (c : Color) (h : g.status = .drawOffered c) (m : Move) (d : Color) :
    g.act K (.move m) = .error .illegalAction ∧ g.act K (.offerDraw d) = .error .illegalAction := by
  rw [act_move, act_nonmove K g _ (by simp), h]
  exact ⟨rfl, rfl⟩

theorem move_result (g g' : Game) (m : Move) (ha : g.act K (.move m) = .ok g') :
    (g.position.makeMove K m = .ok g'.position) ∧ g'.status = afterMoveStatus g' ∧
    g'.history.moves = g.history.moves ++ [m] ∧ g'.history.positions = g.history.positions ++ [g'.position] := by
  obtain ⟨-, hl, rfl⟩ := act_move_ok K ha
  exact ⟨by simp [Board.makeMove, hl], moved_status K g m, by simp, by simp⟩

theorem initial_status (b : Board) : (ofBoard b).status =
    (match b.getStatus with
     | .checkmated c => .checkMated c | .theoreticalDraw => .theoreticalDraw | .stalemate => .stalemate
     | .fiftyMoves => .fiftyMoves | .ongoing => .ongoing) := by
  rw [ofBoard_eq]
  rfl

inductive Reach : Game → Prop
  | init (b : Board) : Reach (ofBoard b)
  | step (g g' : Game) (a : Action) : Reach g → g.act K a = .ok g' → Reach g'

theorem tag_values (s : GStatus) : resultTagOf s ∈ ["1-0".toList, "0-1".toList, "1/2-1/2".toList, "?".toList] := by
  cases s <;> (try (rename_i c; cases c)) <;> simp [resultTagOf]

end Chess.C12

namespace Chess

theorem GameReach.ofC12 {K : Keys} {g : Game} (h : C12.Reach K g) : GameReach K g := by
  induction h with
  | init b => exact .init b
  | step g g' a _ ha ih => exact .step a ih ha

theorem C12.result_tag (K : Keys) (g : Game) (hr : C12.Reach K g) : g.result = resultTagOf g.status :=
  (GameReach.ofC12 hr).inv.tag

end Chess

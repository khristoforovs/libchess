import Chess.Lemmas.BB
import Chess.Model.Prims
/-! # C18 — coordinate, piece, colour, castling-right and bitboard primitives are consistent

Finite types: every value is enumerated by the kernel (`decide`).  Bitboards: the iterator, count and lowest/highest
statements are proofs for all 2^64 values (from `Lemmas/BB`); the eight file masks and eight rank masks are constants and
are evaluated. -/
namespace Chess.C18
open Chess

theorem square_index_roundtrip : ∀ s : Sq, Sq.new? s.val = some s := by decide +kernel
theorem square_index_out_of_range : ∀ i : Nat, 64 ≤ i → Sq.new? i = none := by
  intro i h; exact dif_neg (Nat.not_lt.2 h)
theorem square_text_roundtrip : ∀ s : Sq, parseSquare (printSquare s) = .ok s := by decide +kernel
theorem file_index_roundtrip : ∀ f : Fin 8, idx8? f.val = some f := by decide +kernel
theorem file_index_out_of_range : ∀ i : Nat, 8 ≤ i → idx8? i = none := by
  intro i h; exact dif_neg (Nat.not_lt.2 h)
theorem file_text_roundtrip : ∀ f : Fin 8, parseFile (fileText f) = .ok f := by decide +kernel
theorem rank_text_roundtrip : ∀ r : Fin 8, parseRank (rankText r) = .ok r := by decide +kernel
theorem color_index_roundtrip : ∀ c : Color, Color.ofIdx? c.idx = some c := by intro c; cases c <;> rfl
theorem color_index_out_of_range : ∀ i : Nat, 2 ≤ i → Color.ofIdx? i = none := by
  intro i h; match i, h with | i + 2, _ => rfl
theorem piece_index_roundtrip : ∀ p : PT, PT.ofIdx? p.idx = some p := by intro p; cases p <;> rfl
theorem piece_index_out_of_range : ∀ i : Nat, 6 ≤ i → PT.ofIdx? i = none := by
  intro i h; match i, h with | i + 6, _ => rfl
theorem piece_text_roundtrip : ∀ p : PT, parsePieceType p.text = .ok p := by intro p; cases p <;> decide
theorem piece_text_roundtrip_lower : ∀ p : PT, parsePieceType (p.text.map Char.toLower) = .ok p := by
  intro p
  cases p <;> decide
/-- needs repair F10 (`from_index` was not the inverse of `to_index`) -/
theorem rights_index_roundtrip : ∀ r : CR, CR.ofIdx? r.idx = some r := by intro r; cases r <;> rfl
theorem rights_index_roundtrip' : ∀ i : Nat, i < 4 → (CR.ofIdx? i).map CR.idx = some i := by decide
theorem rights_index_out_of_range : ∀ i : Nat, 4 ≤ i → CR.ofIdx? i = none := by
  intro i h; match i, h with | i + 4, _ => rfl
theorem file_text_foreign (c : Char) (h : c ∉ ['a', 'b', 'c', 'd', 'e', 'f', 'g', 'h']) : ∃ e, parseFile [c] = .error e := by
  simp only [List.mem_cons, List.not_mem_nil, or_false, not_or] at h
  unfold parseFile
  split
  · exact ⟨_, rfl⟩
  · -- `h` rules out each of the eight letter patterns, so the `match` falls through to the error
    split <;> simp_all
theorem rank_text_foreign (c : Char) (h : c ∉ ['1', '2', '3', '4', '5', '6', '7', '8']) : ∃ e, parseRank [c] = .error e := by
  simp only [List.mem_cons, List.not_mem_nil, or_false, not_or] at h
  unfold parseRank
  split
  · exact ⟨_, rfl⟩
  · split <;> simp_all

theorem from_rank_file : ∀ r f : Fin 8, (fromRankFile r f).val = 8 * r.val + f.val := by decide +kernel
theorem rank_file_of_square : ∀ s : Sq, s.rank8.val = s.val / 8 ∧ s.file8.val = s.val % 8 := by decide +kernel
theorem rank_file_roundtrip : ∀ s : Sq, fromRankFile s.rank8 s.file8 = s := by decide +kernel
theorem up_spec : ∀ s : Sq, s.up = mkSq? (s.rank + 1) s.file := by decide +kernel
theorem down_spec : ∀ s : Sq, s.down = mkSq? (s.rank - 1) s.file := by decide +kernel
theorem right_spec : ∀ s : Sq, s.right = mkSq? s.rank (s.file + 1) := by decide +kernel
theorem left_spec : ∀ s : Sq, s.left = mkSq? s.rank (s.file - 1) := by decide +kernel
/-- a1 (rank 0 + file 0) is dark -/
theorem light_dark : ∀ s : Sq, s.isLight = ((s.val / 8 + s.val % 8) % 2 == 1) ∧ s.isDark = !s.isLight := by decide +kernel

/-! ## castling rights: `+` is union and `-` is difference over (kingside, queenside) -/
theorem rights_add : ∀ a b : CR, (a.add b).hasK = (a.hasK || b.hasK) ∧ (a.add b).hasQ = (a.hasQ || b.hasQ) := by
  intro a b
  cases a <;> cases b <;> decide
theorem rights_sub : ∀ a b : CR, (a.sub b).hasK = (a.hasK && !b.hasK) ∧ (a.sub b).hasQ = (a.hasQ && !b.hasQ) := by
  intro a b
  cases a <;> cases b <;> decide
theorem rights_ext : ∀ a b : CR, a.hasK = b.hasK → a.hasQ = b.hasQ → a = b := by
  intro a b
  cases a <;> cases b <;> decide
theorem rights_has_any : ∀ a : CR, a.hasAny = (a.hasK || a.hasQ) := by intro a; cases a <;> decide

theorem iter_spec (b : BB) : toList b = allSq.filter (mem · b) := toList_spec b
theorem iter_sorted (b : BB) : (toList b).Pairwise (· < ·) := by
  rw [toList_spec]; exact (List.pairwise_lt_finRange 64).filter _
theorem iter_mem (b : BB) (s : Sq) : s ∈ toList b ↔ mem s b = true := mem_toList b s
/-- `count_ones` is the number of enumerated squares (definitional in the model) and is 0 exactly for the blank board -/
theorem count_spec (b : BB) : popcount b = (toList b).length := rfl
theorem count_zero (b : BB) : popcount b = 0 ↔ b = 0#64 := popcount_zero b
theorem lowest_is_head (b : BB) : lowest b = (toList b).head? := by
  rw [lowest, toList_spec, List.head?_filter]
theorem highest_is_last (b : BB) : highest b = (toList b).getLast? := by
  rw [highest, toList_spec, List.getLast?_eq_head?_reverse, ← List.filter_reverse, List.head?_filter]
theorem lowest_spec (b : BB) (s : Sq) : lowest b = some s ↔ (mem s b = true ∧ ∀ t : Sq, t < s → mem t b = false) :=
  lowest_some b s
theorem single_square (s t : Sq) : mem t (bbOf s) = decide (t = s) := mem_bbOf t s
theorem file_mask : ∀ (f : Fin 8) (s : Sq), mem s (bbOfFile f) = decide (s.val % 8 = f.val) := by decide +kernel
theorem rank_mask : ∀ (r : Fin 8) (s : Sq), mem s (bbOfRank r) = decide (s.val / 8 = r.val) := by decide +kernel

example : toList (0xff00#64) = [8, 9, 10, 11, 12, 13, 14, 15] := by decide
example : popcount (0x8000000000000001#64) = 2 ∧ lowest (0x8000000000000001#64) = some 0 ∧ highest (0x8000000000000001#64) = some 63 := by decide

end Chess.C18

import Chess.Lemmas.Tables
import Chess.Lemmas.Geo
/-! # C17 — precomputed movement tables equal the geometric definitions on all squares

`dr`/`df` are the rank/file offsets from `a` to `b`.  The generator loops are handled by general lemmas (`mem_collect` for the
OR-accumulating ones, `mem_overwrite` for the overwriting pawn loops, `mem_steps` for the stepping loop of the between-table);
what remains is linear arithmetic in ranks and files (`Lemmas/Geo.lean` removes the products of `strictlyBetween`). -/
namespace Chess.C17
open Chess Chess.Spec

def dr (a b : Sq) : Int := b.rank - a.rank
def df (a b : Sq) : Int := b.file - a.file

def onRay (i : Fin 8) (a b : Sq) : Bool :=
  match i with
  | 0 => df a b == 0 && decide (dr a b > 0)                                   -- up
  | 1 => df a b == 0 && decide (dr a b < 0)                                   -- down
  | 2 => dr a b == 0 && decide (df a b > 0)                                   -- right
  | 3 => dr a b == 0 && decide (df a b < 0)                                   -- left
  | 4 => dr a b == df a b && decide (dr a b > 0)                              -- up-right
  | 5 => dr a b == - df a b && decide (dr a b > 0)                            -- up-left
  | 6 => dr a b == - df a b && decide (dr a b < 0)                            -- down-right
  | 7 => dr a b == df a b && decide (dr a b < 0)                              -- down-left

theorem rays_spec : ∀ (i : Fin 8) (a b : Sq), mem b (ray a i) = onRay i a b := by
  intro i a b
  rw [mem_ray, Bool.eq_iff_iff]
  show rayCond i (dr a b) (df a b) = true ↔ _
  unfold onRay
  -- the two families of predicates agree on all integer offsets
  generalize dr a b = y, df a b = x
  revert i
  refine fin8 ?_ ?_ ?_ ?_ ?_ ?_ ?_ ?_ <;>
    simp only [rayCond, Bool.and_eq_true, beq_iff_eq, decide_eq_true_eq] <;>
    omega

theorem knight_spec : ∀ a b : Sq, mem b (knightT a) =
    (((dr a b).natAbs == 1 && (df a b).natAbs == 2) || ((dr a b).natAbs == 2 && (df a b).natAbs == 1)) := by
  intro a b
  simp only [knightT_eq, knightGen, mem_collect]
  exact Bool.or_comm ..

theorem king_spec : ∀ a b : Sq, mem b (kingT a) = (a != b && decide ((dr a b).natAbs ≤ 1) && decide ((df a b).natAbs ≤ 1)) := by
  intro a b
  simp only [kingT_eq, kingGen, mem_xor, mem_collect, mem_bbOf]
  show (decide ((dr a b).natAbs ≤ 1) && decide ((df a b).natAbs ≤ 1) ^^ decide (b = a)) = _
  by_cases h : b = a
  · subst h
    simp [dr, df]
  · have h' : a ≠ b := fun e => h e.symm
    simp [h, h', Bool.and_assoc]

theorem orthogonal_iff (a t : Sq) : orthogonal a t = (onRay 0 a t || onRay 1 a t || onRay 2 a t || onRay 3 a t) := by
  rw [Bool.eq_iff_iff]
  simp only [orthogonal, onRay, Bool.and_eq_true, Bool.or_eq_true, beq_iff_eq, decide_eq_true_eq, bne_iff_ne, sq_ne_iff]
  simp only [dr, df]
  omega
theorem diagonal_iff (a t : Sq) : diagonal a t = (onRay 4 a t || onRay 5 a t || onRay 6 a t || onRay 7 a t) := by
  rw [Bool.eq_iff_iff]
  simp only [diagonal, onRay, Bool.and_eq_true, Bool.or_eq_true, beq_iff_eq, decide_eq_true_eq, bne_iff_ne, sq_ne_iff]
  simp only [dr, df]
  omega

theorem rook_spec : ∀ a b : Sq, mem b (rookT a) = orthogonal a b := by
  intro a b
  simp only [rookT, mem_or, rays_spec, orthogonal_iff]
theorem bishop_spec : ∀ a b : Sq, mem b (bishopT a) = diagonal a b := by
  intro a b
  simp only [bishopT, mem_or, rays_spec, diagonal_iff]
theorem queen_spec : ∀ a b : Sq, mem b (queenT a) = (orthogonal a b || diagonal a b) := by
  intro a b; simp only [queenT, mem_or, rook_spec, bishop_spec]

theorem eq_of_offsets {a d d' : Sq} (hr : dr a d = dr a d') (hf : df a d = df a d') : d = d' := by
  simp only [dr, df] at hr hf
  exact sq_ext (by omega) (by omega)

theorem pawn_push_spec : ∀ (c : Color) (a b : Sq), mem b (pawnPush c a) = (df a b == 0 && dr a b == fwd c) := by
  intro c a b
  rw [pawnPush_eq, Bool.and_comm]
  cases c <;>
  · refine mem_overwrite _ (fun d => dr a d == _ && df a d == 0) (fun _ _ => rfl) (fun d d' h h' => ?_) b
    simp only [Bool.and_eq_true, beq_iff_eq] at h h'
    exact eq_of_offsets (h.1.trans h'.1.symm) (h.2.trans h'.2.symm)

theorem pawn_double_spec : ∀ (c : Color) (a b : Sq),
    mem b (pawnDouble c a) = (df a b == 0 && dr a b == 2 * fwd c && a.rank == pawnRank c) := by
  intro c a b
  rw [pawnDouble_eq, Bool.and_comm (df a b == 0)]
  refine mem_overwrite _ (fun d => dr a d == 2 * fwd c && df a d == 0 && a.rank == pawnRank c)
    (fun acc d => ?_) (fun d d' h h' => ?_) b
  · -- the loop body tests for the single-step square first and leaves the accumulator alone there; that square is not
    -- the double-step square, so the first test can be dropped
    cases c
    · show (if (dr a d == 1 && df a d == 0) = true then acc
        else if (dr a d == 2 && df a d == 0 && a.rk == 1) = true then bbOf d else acc) = _
      simp only [← rank_beq_rk, fwd, pawnRank]
      split <;> simp_all <;> omega
    · show (if (dr a d == -1 && df a d == 0) = true then acc
        else if (dr a d == -2 && df a d == 0 && a.rk == 6) = true then bbOf d else acc) = _
      simp only [← rank_beq_rk, fwd, pawnRank]
      split <;> simp_all <;> omega
  · simp only [Bool.and_eq_true, beq_iff_eq] at h h'
    exact eq_of_offsets (h.1.1.trans h'.1.1.symm) (h.1.2.trans h'.1.2.symm)

theorem pawn_capture_spec : ∀ (c : Color) (a b : Sq),
    mem b (pawnCap c a) = (dr a b == fwd c && (df a b).natAbs == 1) := by
  intro c a b
  cases c <;> simp only [pawnCap_eq, pawnCapGen, mem_collect] <;> rfl

def aligned (a b : Sq) : Bool := a == b || orthogonal a b || diagonal a b

/-- the test under which `generate_between_masks` fills a cell -/
theorem aligned_iff_offsets (a b : Sq) :
    aligned a b = ((dr a b).natAbs == (df a b).natAbs || (dr a b).natAbs == 0 || (df a b).natAbs == 0) := by
  rw [Bool.eq_iff_iff]
  simp only [aligned, orthogonal, diagonal, Bool.and_eq_true, Bool.or_eq_true, beq_iff_eq, bne_iff_ne, sq_ne_iff,
    sq_eq_iff]
  simp only [dr, df]
  omega

theorem aligned_comm (a b : Sq) : aligned a b = aligned b a := by
  simp only [aligned, orthogonal_symm a b, diagonal_symm a b, Bool.beq_comm (a := a)]

/-- the stepping loop of `generate_between_masks` collects the squares `g j`, `1 ≤ j`, that exist -/
theorem mem_steps (g : Nat → Option Sq) (c : Sq) (l : List Nat) (acc : BB) :
    mem c (l.foldl (fun (m : BB) j =>
      if 1 ≤ j then (match g j with | some s => m ||| bbOf s | none => m) else m) acc) = true
      ↔ mem c acc = true ∨ ∃ j ∈ l, 1 ≤ j ∧ g j = some c := by
  induction l generalizing acc with
  | nil => simp
  | cons x xs ih =>
    rw [List.foldl_cons, ih]
    simp only [List.mem_cons, exists_eq_or_imp]
    by_cases h1 : 1 ≤ x
    · cases hg : g x with
      | none => simp [h1]
      | some s =>
        simp only [h1, if_true, mem_or, mem_bbOf, Bool.or_eq_true, decide_eq_true_eq, true_and, Option.some.injEq,
          eq_comm (a := c), or_assoc]
    · simp [h1]

/-- dividing an offset by the length of the line gives its sign -/
theorem ediv_len {y : Int} {m : Nat} (hm : 0 < m) (h : y.natAbs = 0 ∨ y.natAbs = m) :
    (y / m = 0 ∨ y / m = 1 ∨ y / m = -1) ∧ y = y / m * m := by
  have hm' : (m : Int) ≠ 0 := by omega
  rcases (by omega : y = 0 ∨ y = m ∨ y = -m) with rfl | rfl | rfl
  · simp
  · simp [Int.ediv_self hm']
  · simp [Int.neg_ediv_self _ hm']

/-- between distinct aligned squares the loop collects exactly the squares strictly between: the quotients `dr / n`, `df / n`
by the length `n` of the line are the unit step, and the `j`-th square is `j` steps from `a` -/
theorem mem_betweenLoop {a b : Sq} (hab : a ≠ b) (hal : aligned a b = true) (c : Sq) {n : Nat}
    (hn : max (dr a b).natAbs (df a b).natAbs = n) :
    mem c ((List.range n).foldl (fun (m : BB) (j : Nat) =>
      if 1 ≤ j then
        match mkSq? (a.rank + dr a b / n * j) (a.file + df a b / n * j) with
        | some s => m ||| bbOf s
        | none => m
      else m) 0#64) = strictlyBetween a c b := by
  rw [aligned_iff_offsets] at hal
  simp only [Bool.or_eq_true, beq_iff_eq] at hal
  rw [ne_eq, sq_eq_iff] at hab
  have hn0 : 0 < n := by simp only [dr, df] at *; omega
  obtain ⟨hs, hy⟩ := ediv_len (y := dr a b) hn0 (by omega)
  obtain ⟨ht, hx⟩ := ediv_len (y := df a b) hn0 (by omega)
  generalize dr a b / n = s at *
  generalize df a b / n = t at *
  rw [Bool.eq_iff_iff, mem_steps, strictlyBetween_iff]
  simp only [mem_zero, Bool.false_eq_true, false_or, List.mem_range, mkSq?_eq_some_iff, btw]
  simp only [dr, df] at hy hx
  clear hal hn
  constructor
  · -- the `j`-th square lies on the line through `a` and `b` that the two unit steps name
    rintro ⟨j, hj, h1, hr, hf⟩
    rcases ht with rfl | rfl | rfl
    · refine .inl ?_
      rcases hs with rfl | rfl | rfl <;> omega
    · rcases hs with rfl | rfl | rfl
      · exact .inr (.inl (by omega))
      · exact .inr (.inr (.inl (by omega)))
      · exact .inr (.inr (.inr (by omega)))
    · rcases hs with rfl | rfl | rfl
      · exact .inr (.inl (by omega))
      · exact .inr (.inr (.inr (by omega)))
      · exact .inr (.inr (.inl (by omega)))
  · intro h
    -- `c` is `j` steps from `a`, `j` being its offset along whichever coordinate moves; as the unit steps `s`, `t` are
    -- `0` or `±1`, that offset is `s * Δrank` or `t * Δfile`, the other product being `0` or the same number
    refine ⟨(max (s * (c.rank - a.rank)) (t * (c.file - a.file))).toNat, ?_⟩
    rcases hs with rfl | rfl | rfl <;> rcases ht with rfl | rfl | rfl <;> omega

theorem betweenGen_eq (a b : Sq) :
    betweenGen a b = if aligned a b then some (collect fun c => strictlyBetween a c b) else none := by
  unfold betweenGen
  by_cases hab : a = b
  · subst hab
    have : aligned a a = true := by simp [aligned]
    rw [if_pos rfl, if_pos this]
    congr 1
    apply bb_ext
    intro c
    rw [mem_collect, strictlyBetween_eq, bne_self_eq_false]
    simp [sbCore]
  · rw [if_neg hab]
    show (if ((dr a b).natAbs == (df a b).natAbs || (dr a b).natAbs == 0 || (df a b).natAbs == 0) = true then _ else _) = _
    rw [← aligned_iff_offsets]
    cases hal : aligned a b
    · rfl
    · simp only [if_true]
      congr 1
      apply bb_ext
      intro c
      rw [mem_collect]
      exact mem_betweenLoop hab hal c rfl

theorem between_eq_collect (a b : Sq) :
    between a b = if aligned a b then some (collect fun c => strictlyBetween a c b) else none := by
  rw [between_eq]
  split
  · exact betweenGen_eq a b
  · rw [betweenGen_eq, aligned_comm]
    simp only [strictlyBetween_comm b]

theorem between_none_iff (a b : Sq) : between a b = none ↔ aligned a b = false := by
  rw [between_eq_collect]
  cases aligned a b <;> simp

theorem aligned_of_between {a c b : Sq} (h : strictlyBetween a c b = true) : aligned a b = true := by
  rw [aligned_iff_offsets]
  simp only [strictlyBetween, Bool.and_eq_true, Bool.or_eq_true, beq_iff_eq] at h ⊢
  simp only [dr, df]
  omega

/-- read with a blank default the table needs no side condition: off a common line nothing lies strictly between -/
theorem mem_between (a b c : Sq) : mem c ((between a b).getD 0#64) = strictlyBetween a c b := by
  rw [between_eq_collect]
  cases hal : aligned a b
  · rw [if_neg Bool.false_ne_true, Option.getD_none, mem_zero]
    cases h : strictlyBetween a c b
    · rfl
    · rw [aligned_of_between h] at hal
      cases hal
  · rw [if_pos rfl, Option.getD_some, mem_collect]

theorem between_spec (a b : Sq) (m : BB) (h : between a b = some m) (c : Sq) :
    mem c m = strictlyBetween a c b := by
  rw [← mem_between, h, Option.getD_some]

def betweenOk (a : Sq) : Bool := allSq.all fun b =>
  match between a b with
  | none => !aligned a b
  | some m => aligned a b && allSq.all fun c => mem c m == strictlyBetween a c b

theorem between_table_ok : ∀ a : Sq, betweenOk a = true := by
  intro a
  simp only [betweenOk, List.all_eq_true]
  intro b _
  rw [between_eq_collect]
  cases aligned a b <;> simp

theorem between_symm : ∀ a b : Sq, between a b = between b a := by
  intro a b
  rw [between_eq_collect, between_eq_collect, aligned_comm]
  simp only [strictlyBetween_comm b]

theorem between_identical : ∀ a : Sq, between a a = some 0#64 := by
  intro a; simp [between_eq, betweenGen]

theorem between_adjacent : ∀ a b : Sq, kingT a |>.getLsbD b.val → between a b = some 0#64 := by
  intro a b h
  have hk : mem b (kingT a) = true := h
  simp only [king_spec, Bool.and_eq_true, decide_eq_true_eq] at hk
  have hal : aligned a b = true := by
    rw [aligned_iff_offsets]
    simp only [Bool.or_eq_true, beq_iff_eq]
    omega
  rw [between_eq_collect, if_pos hal]
  congr 1
  apply bb_ext
  intro c
  rw [mem_collect, mem_zero, ← Bool.not_eq_true, strictlyBetween_iff]
  -- both offsets are at most 1 in absolute value: no integer lies strictly between 0 and either
  simp only [dr, df] at hk
  simp only [btw]
  omega

/-! non-vacuity: concrete entries -/
example : between 0 63 = some 0x0040201008040200#64 := by simp only [between_eq]; decide +kernel
example : between 0 10 = none := by simp only [between_eq]; decide +kernel

end Chess.C17

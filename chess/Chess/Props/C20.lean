import Chess.Model.Game
import Chess.Lemmas.Split
import Chess.Lemmas.Rep
/-! # C20 — text renderings show exactly the value rendered

Independent readers of the rendered texts are defined here; the theorems say that reading a rendering back yields the
value that was rendered: the bitboard grid, the board in both orientations, the status sentences. -/
namespace Chess.C20
open Chess

/-- independent reader of a grid text: character `2*col` of line `row` (lines split at '\n') -/
def gridCell (text : Str) (row col : Nat) : Option Char :=
  match (splitOn '\n' text)[row]? with
  | some line => line[2 * col]?
  | none => none

def bbRow (x : BB) (r : Fin 8) : Str :=
  (List.finRange 8).flatMap fun (f : Fin 8) => [if mem ⟨r.val * 8 + f.val, by omega⟩ x then 'X' else '.', ' ']

theorem showBB_eq (x : BB) :
    showBB x = ([7, 6, 5, 4, 3, 2, 1, 0] : List (Fin 8)).flatMap (fun r => bbRow x r ++ ['\n']) := by
  unfold showBB bbRow
  congr 1; funext r
  congr 2; funext f
  split <;> rfl

theorem newline_not_mem_bbRow (x : BB) (r : Fin 8) : '\n' ∉ bbRow x r := by
  unfold bbRow
  simp only [List.mem_flatMap, not_exists, not_and]
  intro f _
  split <;> decide

theorem bbRow_length (x : BB) (r : Fin 8) : (bbRow x r).length = 16 := by
  simp only [bbRow, List.length_flatMap, List.length_cons, List.length_nil]
  rfl

theorem showBB_lines (x : BB) :
    splitOn '\n' (showBB x) = ([7, 6, 5, 4, 3, 2, 1, 0] : List (Fin 8)).map (bbRow x) ++ [[]] := by
  have h := splitOn_flatMap_terminated '\n' ([7, 6, 5, 4, 3, 2, 1, 0] : List (Fin 8)) (bbRow x) []
    (fun r _ => newline_not_mem_bbRow x r)
  rwa [List.append_nil, ← showBB_eq] at h

theorem pairs_getElem? {α} (xs : List α) (g : α → Char) (c : Char) (j : Nat) :
    (xs.flatMap fun a => [g a, c])[2 * j]? = xs[j]?.map g := by
  induction xs generalizing j with
  | nil => simp
  | cons a xs ih =>
    cases j with
    | zero => simp
    | succ j =>
      have : 2 * (j + 1) = 2 * j + 1 + 1 := by omega
      simp only [List.flatMap_cons, this, List.cons_append, List.nil_append, List.getElem?_cons_succ, ih]

theorem bbRow_getElem? (x : BB) (r f : Fin 8) :
    (bbRow x r)[2 * f.val]? = some (if mem ⟨r.val * 8 + f.val, by omega⟩ x then 'X' else '.') := by
  rw [bbRow, pairs_getElem?]
  simp

theorem idx8_getElem? : ∀ j : Fin 8, ([0, 1, 2, 3, 4, 5, 6, 7] : List (Fin 8))[j.val]? = some j := by decide
theorem rev_getElem? : ∀ j : Fin 8, ([7, 6, 5, 4, 3, 2, 1, 0] : List (Fin 8))[j.val]? = some ⟨7 - j.val, by omega⟩ := by decide
theorem rev_getElem?_sub : ∀ j : Fin 8, ([7, 6, 5, 4, 3, 2, 1, 0] : List (Fin 8))[7 - j.val]? = some j := by decide

/-- **C20 (bitboard grid).**  In the text of `showBB x`, the character at line `r`, column `2f` is `X` exactly when the
square on rank `7 - r` (8th rank on top) and file `f` (a-file left) is a member of `x`, and `.` otherwise.  General in `x`. -/
theorem C20_bitboard (x : BB) (r f : Fin 8) :
    gridCell (showBB x) r.val f.val =
      some (if mem ⟨(7 - r.val) * 8 + f.val, by omega⟩ x then 'X' else '.') := by
  unfold gridCell
  rw [showBB_lines, List.getElem?_append_left (by simp), List.getElem?_map, rev_getElem? r]
  simp only [Option.map_some]
  exact bbRow_getElem? x ⟨7 - r.val, by omega⟩ f

/-- the grid has exactly eight lines (plus the empty piece after the last newline) and each is 16 characters wide -/
theorem C20_bitboard_shape (x : BB) :
    (splitOn '\n' (showBB x)).length = 9 ∧ ∀ r : Fin 8, ((splitOn '\n' (showBB x))[r.val]?).map List.length = some 16 := by
  rw [showBB_lines]
  refine ⟨by simp, fun r => ?_⟩
  rw [List.getElem?_append_left (by simp), List.getElem?_map, rev_getElem? r]
  simp only [Option.map_some, bbRow_length]

example : gridCell (showBB (bbOf 0)) 7 0 = some 'X' := by decide

def boardLine (text : Str) (k : Nat) : Option Str := (splitOn '\n' text)[k]?
/-- independent reader: the 3 characters of cell (row `i` from the top, column `j` from the left); rank rows are lines
2..9, a row line is `label, 2 blanks, '║'` (4 characters), then 3 characters per cell.  Counted in characters. -/
def boardCell (text : Str) (i j : Nat) : Option Str :=
  (boardLine text (2 + i)).map fun line => (line.drop (4 + 3 * j)).take 3
def rankLabel (text : Str) (i : Nat) : Option Char := (boardLine text (2 + i)).bind (·[0]?)

/-- what a cell must show: blank, or the FEN letter of the man (upper case White, lower case Black) between blanks -/
def cellOf : Option Piece → Str
  | none => [' ', ' ', ' ']
  | some p => [' ', pieceChar p, ' ']

def rightsText (w b : CR) : Str :=
  (if w.hasK then ['K'] else []) ++ (if w.hasQ then ['Q'] else []) ++
  (if b.hasK then ['k'] else []) ++ (if b.hasQ then ['q'] else [])

example : cellOf (some ⟨.knight, .white⟩) = " N ".toList ∧ cellOf (some ⟨.queen, .black⟩) = " q ".toList := by decide

def cellText (b : Board) (sq : Sq) : Str :=
  if b.isEmptySq sq then "   ".toList
  else match b.getPieceTypeOn sq, b.getPieceColorOn sq with
    | some t, some c => [' ', (match c with | .white => t.letter.toUpper | .black => t.letter.toLower), ' ']
    | _, _ => "   ".toList

def headerLine (b : Board) : Str :=
  "   ".toList ++ b.stm.name ++ "  ".toList ++ ((b.rights .white).show.map Char.toUpper) ++ (b.rights .black).show
def topBorder : Str := "   ╔════════════════════════╗".toList
def bottomBorder : Str := "   ╚════════════════════════╝".toList
def rowLine (b : Board) (files : List (Fin 8)) (r : Fin 8) : Str :=
  natStr (r.val + 1) ++ "  ║".toList ++ (files.flatMap fun f => cellText b ⟨r.val * 8 + f.val, by omega⟩) ++ "║".toList

theorem renderPlain_eq (b : Board) (ranks files : List (Fin 8)) (footer : Str) :
    b.renderPlain ranks files footer =
      headerLine b ++ '\n' :: (topBorder ++ '\n' ::
        (ranks.flatMap (fun r => rowLine b files r ++ ['\n']) ++ (bottomBorder ++ '\n' :: (footer ++ '\n' :: [])))) := by
  have t1 : "║\n".toList = "║".toList ++ ['\n'] := by decide
  unfold Board.renderPlain rowLine headerLine topBorder bottomBorder cellText
  rw [t1]
  simp only [List.append_assoc, List.cons_append, List.nil_append]
  -- the two sides differ only in the names of the compiled `match` auxiliaries
  rfl

theorem cellText_length (b : Board) (sq : Sq) : (cellText b sq).length = 3 := by
  unfold cellText; split
  · rfl
  · split <;> rfl

theorem newline_not_mem_cellText (b : Board) (sq : Sq) : '\n' ∉ cellText b sq := by
  unfold cellText; split
  · decide
  · split
    · rename_i t c _ _
      cases t <;> cases c <;> decide
    · decide

theorem newline_not_mem_rowLine (b : Board) (files : List (Fin 8)) (r : Fin 8) : '\n' ∉ rowLine b files r := by
  unfold rowLine
  simp only [List.mem_append, List.mem_flatMap, not_or, not_exists, not_and]
  exact ⟨⟨⟨not_mem_natStr _ _ (by decide), by decide⟩, fun f _ => newline_not_mem_cellText b _⟩, by decide⟩

theorem newline_not_mem_headerLine (b : Board) : '\n' ∉ headerLine b := by
  unfold headerLine
  simp only [List.mem_append, not_or]
  refine ⟨⟨⟨⟨by decide, ?_⟩, by decide⟩, ?_⟩, ?_⟩
  · cases b.stm <;> decide
  · cases b.rights .white <;> decide
  · cases b.rights .black <;> decide

theorem renderPlain_lines (b : Board) (ranks files : List (Fin 8)) (footer : Str) (hf : '\n' ∉ footer) :
    splitOn '\n' (b.renderPlain ranks files footer) =
      headerLine b :: topBorder :: (ranks.map (rowLine b files) ++ [bottomBorder, footer, []]) := by
  -- one rewrite per line feed: after the header, after the top border, after each row, after the bottom border, after the footer
  rw [renderPlain_eq, splitOn_append_sep _ _ _ (newline_not_mem_headerLine b),
    splitOn_append_sep _ _ _ (by decide +kernel : '\n' ∉ topBorder),
    splitOn_flatMap_terminated _ _ _ _ (fun r _ => newline_not_mem_rowLine b files r),
    splitOn_append_sep _ _ _ (by decide +kernel : '\n' ∉ bottomBorder), splitOn_append_sep _ _ _ hf]
  rfl

theorem rowLine_eq (b : Board) (files : List (Fin 8)) (r : Fin 8) :
    rowLine b files r = Nat.digitChar (r.val + 1) :: ' ' :: ' ' :: '║' ::
      ((files.flatMap fun f => cellText b ⟨r.val * 8 + f.val, by omega⟩) ++ ['║']) := by
  unfold rowLine
  rw [natStr_lt_ten _ (by omega)]
  rfl

theorem boardLine_renderPlain (b : Board) (ranks files : List (Fin 8)) (footer : Str) (hf : '\n' ∉ footer)
    (i : Nat) (r : Fin 8) (hr : ranks[i]? = some r) :
    boardLine (b.renderPlain ranks files footer) (2 + i) = some (rowLine b files r) := by
  have hi : i < (ranks.map (rowLine b files)).length := by
    rw [List.length_map]; exact (List.getElem?_eq_some_iff.mp hr).1
  rw [boardLine, renderPlain_lines _ _ _ _ hf, Nat.add_comm, List.getElem?_cons_succ, List.getElem?_cons_succ,
    List.getElem?_append_left hi, List.getElem?_map, hr]
  rfl

theorem flatMap_drop_take {α β} (w : Nat) (xs : List α) (g : α → List β) (hg : ∀ a ∈ xs, (g a).length = w)
    (j : Nat) (rest : List β) :
    ((xs.flatMap g ++ rest).drop (w * j)).take w = match xs[j]? with
      | some a => g a
      | none => (rest.drop (w * (j - xs.length))).take w := by
  induction xs generalizing j with
  | nil => simp
  | cons a xs ih =>
    have h1 : (g a).length = w := hg a (by simp)
    have h2 : ∀ b ∈ xs, (g b).length = w := fun b hb => hg b (by simp [hb])
    cases j with
    | zero =>
      simp only [Nat.mul_zero, List.drop_zero, List.flatMap_cons, List.append_assoc, List.getElem?_cons_zero]
      rw [List.take_append_of_le_length (by omega), List.take_of_length_le (by omega)]
    | succ j =>
      simp only [List.flatMap_cons, List.append_assoc, List.getElem?_cons_succ, List.length_cons]
      have : w * (j + 1) = (g a).length + w * j := by rw [h1, Nat.mul_succ]; omega
      rw [this, ← List.drop_drop, List.drop_left, ih h2]
      have e : j + 1 - (xs.length + 1) = j - xs.length := by omega
      rw [e]

theorem boardCell_renderPlain (b : Board) (ranks files : List (Fin 8)) (footer : Str) (hf : '\n' ∉ footer)
    (i j : Nat) (r f : Fin 8) (hr : ranks[i]? = some r) (hfl : files[j]? = some f) :
    boardCell (b.renderPlain ranks files footer) i j = some (cellText b ⟨r.val * 8 + f.val, by omega⟩) := by
  rw [boardCell, boardLine_renderPlain b _ _ _ hf i r hr, Option.map_some, rowLine_eq, ← List.drop_drop]
  simp only [List.drop_succ_cons, List.drop_zero]
  rw [flatMap_drop_take 3 files _ (fun a _ => cellText_length b _), hfl]

theorem rankLabel_renderPlain (b : Board) (ranks files : List (Fin 8)) (footer : Str) (hf : '\n' ∉ footer)
    (i : Nat) (r : Fin 8) (hr : ranks[i]? = some r) :
    rankLabel (b.renderPlain ranks files footer) i = some (Nat.digitChar (r.val + 1)) := by
  rw [rankLabel, boardLine_renderPlain b _ _ _ hf i r hr, rowLine_eq]
  rfl

theorem cellText_of_rep (b : Board) (f : Sq → Option Piece) (h : Rep b f) (sq : Sq) : cellText b sq = cellOf (f sq) := by
  unfold cellText
  rw [h.isEmptySq, h.getPieceTypeOn, h.getPieceColorOn]
  cases hp : f sq with
  | none => rfl
  | some p =>
    obtain ⟨t, c⟩ := p
    cases c <;> cases t <;> rfl

def legendStraight : Str := "     a  b  c  d  e  f  g  h".toList
def legendFlipped : Str := "     h  g  f  e  d  c  b  a".toList

theorem renderStraight_eq (b : Board) :
    b.renderStraight = b.renderPlain [7, 6, 5, 4, 3, 2, 1, 0] [0, 1, 2, 3, 4, 5, 6, 7] legendStraight := rfl
theorem renderFlipped_eq (b : Board) :
    b.renderFlipped = b.renderPlain [0, 1, 2, 3, 4, 5, 6, 7] [7, 6, 5, 4, 3, 2, 1, 0] legendFlipped := rfl
theorem newline_not_mem_legendStraight : '\n' ∉ legendStraight := by decide +kernel
theorem newline_not_mem_legendFlipped : '\n' ∉ legendFlipped := by decide +kernel

/-- the representation hypothesis is satisfiable (empty board), and every board of interest has one: `Rep b b.abs`
follows from any `Rep b f` by `Rep.abs_eq` -/
example : Rep Board.new (fun _ => none) := rep_new

/-- **C20 (board, cells).**  In `renderStraight`, row `i` (from the top), column `j` (from the left) shows the man on the
square of rank `7 - i`, file `j`: its FEN letter between blanks, or three blanks when the square is empty. -/
theorem C20_board_cell (b : Board) (f : Sq → Option Piece) (h : Rep b f) (i j : Fin 8) :
    boardCell b.renderStraight i.val j.val = some (cellOf (f ⟨(7 - i.val) * 8 + j.val, by omega⟩)) := by
  rw [renderStraight_eq]
  rw [boardCell_renderPlain b _ _ _ newline_not_mem_legendStraight i.val j.val ⟨7 - i.val, by omega⟩ j (rev_getElem? i)
      (idx8_getElem? j), cellText_of_rep b f h]

/-- **C20 (board, rank labels).**  Row `i` of `renderStraight` is labelled with the digit `8 - i`. -/
theorem C20_board_label (b : Board) (i : Fin 8) :
    rankLabel b.renderStraight i.val = some (Nat.digitChar (8 - i.val)) := by
  rw [renderStraight_eq]
  rw [rankLabel_renderPlain b _ _ _ newline_not_mem_legendStraight i.val ⟨7 - i.val, by omega⟩ (rev_getElem? i)]
  have : 7 - i.val + 1 = 8 - i.val := by omega
  show some (Nat.digitChar (7 - i.val + 1)) = _
  rw [this]

theorem rights_text (w k : CR) : (w.show.map Char.toUpper) ++ k.show = rightsText w k := by
  cases w <;> cases k <;> decide

/-- **C20 (board, frame).**  Line 0 names the side to move and the castling rights, lines 1 and 10 are the borders,
line 11 is the file legend `a..h`, and there are exactly 12 lines (plus the empty piece after the last newline). -/
theorem C20_board_frame (b : Board) :
    boardLine b.renderStraight 0 =
      some ("   ".toList ++ b.stm.name ++ "  ".toList ++ rightsText (b.rights .white) (b.rights .black)) ∧
    boardLine b.renderStraight 1 = some topBorder ∧
    boardLine b.renderStraight 10 = some bottomBorder ∧
    boardLine b.renderStraight 11 = some legendStraight ∧
    (splitOn '\n' b.renderStraight).length = 13 := by
  rw [renderStraight_eq]; unfold boardLine
  rw [renderPlain_lines _ _ _ _ newline_not_mem_legendStraight]
  refine ⟨?_, rfl, rfl, rfl, rfl⟩
  rw [List.getElem?_cons_zero, headerLine, List.append_assoc, rights_text]

theorem C20_flipped_frame (b : Board) :
    boardLine b.renderFlipped 0 = boardLine b.renderStraight 0 ∧
    boardLine b.renderFlipped 1 = some topBorder ∧
    boardLine b.renderFlipped 10 = some bottomBorder ∧
    boardLine b.renderFlipped 11 = some legendFlipped ∧
    (splitOn '\n' b.renderFlipped).length = 13 := by
  rw [renderFlipped_eq, renderStraight_eq]; unfold boardLine
  rw [renderPlain_lines _ _ _ _ newline_not_mem_legendFlipped, renderPlain_lines _ _ _ _ newline_not_mem_legendStraight]
  exact ⟨by rw [List.getElem?_cons_zero, List.getElem?_cons_zero], rfl, rfl, rfl, rfl⟩

/-- the legends: under the middle character of column `j` (offset `5 + 3j`) stands the file letter of file `j`
(straight) resp. `7 - j` (flipped) -/
theorem C20_legend : ∀ j : Fin 8,
    legendStraight[5 + 3 * j.val]? = some (fileChar j.val) ∧ legendFlipped[5 + 3 * j.val]? = some (fileChar (7 - j.val)) := by
  decide +kernel
/-- … and everything else in the legends is blank -/
theorem C20_legend_blank :
    legendStraight.filter (· ≠ ' ') = (List.finRange 8).map (fun j => fileChar j.val) ∧
    legendFlipped.filter (· ≠ ' ') = (List.finRange 8).map (fun j => fileChar (7 - j.val)) := by
  decide +kernel

/-- **C20 (flipped board).**  `renderFlipped` is `renderStraight` rotated by 180°: cell `(i, j)` of the flipped text is
cell `(7 - i, 7 - j)` of the straight text, and the rank labels run the other way (row `i` is labelled `i + 1`).
Holds for every board (no representation hypothesis needed). -/
theorem C20_flipped (b : Board) (i j : Fin 8) :
    boardCell b.renderFlipped i.val j.val = boardCell b.renderStraight (7 - i.val) (7 - j.val) ∧
    rankLabel b.renderFlipped i.val = rankLabel b.renderStraight (7 - i.val) ∧
    rankLabel b.renderFlipped i.val = some (Nat.digitChar (i.val + 1)) := by
  -- the flipped text lists ranks 1..8 and files h..a: both readings are of the square on rank `i`, file `7 - j`
  have hi := rev_getElem?_sub i
  have hj := idx8_getElem? ⟨7 - j.val, by omega⟩
  have cellF : boardCell b.renderFlipped i.val j.val = some (cellText b ⟨i.val * 8 + (7 - j.val), by omega⟩) :=
    boardCell_renderPlain b _ _ _ newline_not_mem_legendFlipped i.val j.val i ⟨7 - j.val, by omega⟩ (idx8_getElem? i)
      (rev_getElem? j)
  have cellS : boardCell b.renderStraight (7 - i.val) (7 - j.val) =
      some (cellText b ⟨i.val * 8 + (7 - j.val), by omega⟩) :=
    boardCell_renderPlain b _ _ _ newline_not_mem_legendStraight (7 - i.val) (7 - j.val) i ⟨7 - j.val, by omega⟩ hi hj
  have labF : rankLabel b.renderFlipped i.val = some (Nat.digitChar (i.val + 1)) :=
    rankLabel_renderPlain b _ _ _ newline_not_mem_legendFlipped i.val i (idx8_getElem? i)
  have labS : rankLabel b.renderStraight (7 - i.val) = some (Nat.digitChar (i.val + 1)) :=
    rankLabel_renderPlain b _ _ _ newline_not_mem_legendStraight (7 - i.val) i hi
  exact ⟨cellF.trans cellS.symm, labF.trans labS.symm, labF⟩

theorem C20_flipped_cell (b : Board) (f : Sq → Option Piece) (h : Rep b f) (i j : Fin 8) :
    boardCell b.renderFlipped i.val j.val = some (cellOf (f ⟨i.val * 8 + (7 - j.val), by omega⟩)) := by
  rw [renderFlipped_eq,
    boardCell_renderPlain b _ _ _ newline_not_mem_legendFlipped i.val j.val i ⟨7 - j.val, by omega⟩ (idx8_getElem? i)
      (rev_getElem? j), cellText_of_rep b f h]

theorem _root_.Chess.Color.name_injective (c d : Color) (h : c.name = d.name) : c = d := by
  cases c <;> cases d <;> first | rfl | exact absurd h (by decide)

/-- **C20 (status).**  The texts for a decided game name the winner, which is the opponent of the mated / resigning side. -/
theorem C20_status_winner (c : Color) :
    (GStatus.checkMated c).show = c.other.name ++ " won by checkmate".toList ∧
    (GStatus.resigned c).show = c.other.name ++ " won by resignation".toList ∧
    c.other.name ≠ c.name := by
  refine ⟨rfl, rfl, fun h => Color.other_ne c (Color.name_injective _ _ h)⟩

/-- `w` occurs in `s` as a contiguous block -/
def occursIn (w : Str) : Str → Bool
  | [] => w.isPrefixOf []
  | c :: cs => w.isPrefixOf (c :: cs) || occursIn w cs

theorem C20_status_no_loser (c : Color) :
    occursIn c.name (GStatus.checkMated c).show = false ∧ occursIn c.name (GStatus.resigned c).show = false ∧
    c.other.name.isPrefixOf (GStatus.checkMated c).show = true ∧ c.other.name.isPrefixOf (GStatus.resigned c).show = true := by
  cases c <;> decide

theorem C20_status_injective (s t : GStatus) : s.show = t.show → s = t := by
  rcases s with _ | (_|_) | (_|_) | (_|_) | _ | _ | _ | _ | _ <;>
  rcases t with _ | (_|_) | (_|_) | (_|_) | _ | _ | _ | _ | _ <;> decide

end Chess.C20

import Chess.Props.C08Spec
import Chess.Lemmas.Rep
/-! # C08 — FEN output and input are inverse

`printFen` mirrors `Display for BoardBuilder`, `parseFen` mirrors `BoardBuilder::from_str` (the
unvalidated builder).  For every builder whose clocks fit a `usize`, parsing the printed text gives the
builder back; hence every canonical FEN text (a text in the image of `printFen`), whether or not it
describes a valid position, is parsed and re-printed unchanged, and `printFen` is injective. -/
namespace Chess.C08
open Chess Chess.Fen

theorem recordOf_injective {a b : Builder} (h : recordOf a = recordOf b) : a = b := by
  simp only [recordOf, FenSpec.FenRecord.mk.injEq] at h
  obtain ⟨h1, h2, k1, q1, k2, q2, h4, h5, h6⟩ := h
  refine Builder.ext' h1 h2 (funext fun c => ?_) h4 h5 h6
  cases c
  · exact C18.rights_ext _ _ k1 q1
  · exact C18.rights_ext _ _ k2 q2

/-- **C08 (builder round trip).**  Parsing the printed builder gives the builder back: the printed text is standard FEN and means `bb`
(`C08_standard`), and the parser reads standard FEN with its standard meaning (`C08_read_agrees_parse`) -/
theorem C08_builder_roundtrip (bb : Builder) (hh : bb.half < 2 ^ 64) (hf : bb.full < 2 ^ 64) :
    parseFen (printFen bb) = .ok bb := by
  obtain ⟨bb', h1, h2⟩ := C08_read_agrees_parse _ _ (C08_standard bb) ⟨hh, hf⟩
  rw [h1, recordOf_injective h2]

theorem C08_canonical_reprint (bb : Builder) (hh : bb.half < 2 ^ 64) (hf : bb.full < 2 ^ 64) :
    (parseFen (printFen bb)).map printFen = .ok (printFen bb) := by
  rw [C08_builder_roundtrip bb hh hf]; rfl

theorem C08_canonical_text (t : Str) (bb : Builder) (hh : bb.half < 2 ^ 64) (hf : bb.full < 2 ^ 64)
    (ht : t = printFen bb) : ∃ bb', parseFen t = .ok bb' ∧ printFen bb' = t :=
  ⟨bb, by rw [ht, C08_builder_roundtrip bb hh hf], ht.symm⟩

/-- `printFen` is injective, for all clock values: the strict reader recovers the builder's content -/
theorem printFen_injective {a b : Builder} (h : printFen a = printFen b) : a = b := by
  have := C08_standard a
  rw [h, C08_standard b] at this
  exact (recordOf_injective (Option.some.inj this)).symm

theorem C08_printFen_injective (a b : Builder) (ha : a.half < 2 ^ 64) (ha' : a.full < 2 ^ 64)
    (hb : b.half < 2 ^ 64) (hb' : b.full < 2 ^ 64) (h : printFen a = printFen b) : a = b :=
  printFen_injective h

/-- the hypotheses are satisfiable, and the statement is not vacuous: the empty builder -/
example : parseFen (printFen Builder.new) = .ok Builder.new :=
  C08_builder_roundtrip Builder.new (by decide) (by decide)
end Chess.C08

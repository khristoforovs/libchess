import Chess.Model.Rng
import Chess.Props.C07Keys
/-! C07 (key table part, "key tables from a fixed seed"): the published table `Gen.zkey` (dumped from the running
implementation) IS the output of the modelled generator `StdRng::seed_from_u64(1370359990842121)` +
785 × `rng.gen::<u64>()` (`Chess/Model/Rng.lean`: PCG32 seed expansion, ChaCha12 block function, `BlockRng::next_u64`).
The key stream is evaluated once by the kernel (one pass over the 785 keys, ≈ 5 s). -/
namespace Chess.C07
open Chess.Rng

theorem rng_first_keys :
    Rng.key 1370359990842121 0 = 0xb110fe7ecabc4947 ∧ Rng.key 1370359990842121 1 = 0x68398d91d6011492 := by
  decide +kernel

/-- the eight ChaCha key words obtained from `SEED` by the PCG32 expansion -/
theorem rng_seed_words :
    Rng.pcg32Seed 1370359990842121 =
      [0x3fd4ef00, 0xab970239, 0x50e78fbd, 0xe7ba6fe3, 0x6a41dd09, 0x3a3afaeb, 0x1e6ae3c9, 0x87df428d] := by
  decide +kernel

/-- one pass over the generator: the next `n` outputs from state `r` are the published keys `i, i+1, …` -/
def checkFrom : Nat → Nat → BlockRng → Bool
  | 0, _, _ => true
  | n + 1, i, r => Nat.beq r.nextU64.1 (Gen.zkey i) && checkFrom n (i + 1) r.nextU64.2

theorem checkFrom_spec : ∀ (n i : Nat) (r : BlockRng), checkFrom n i r = true →
    ∀ j, j < n → (Rng.iter (fun r => r.nextU64.2) j r).nextU64.1 = Gen.zkey (i + j)
  | 0, _, _, _, j, hj => by omega
  | n + 1, i, r, h, j, hj => by
    simp only [checkFrom, Bool.and_eq_true] at h
    cases j with
    | zero => exact Nat.eq_of_beq_eq_true h.1
    | succ j =>
      have := checkFrom_spec n (i + 1) r.nextU64.2 h.2 j (by omega)
      simp only [Rng.iter]  -- `iter f (j + 1) r = iter f j (f r)`
      rw [this]
      congr 1
      omega

theorem rng_table_check : checkFrom 785 0 (Rng.seedFromU64 1370359990842121) = true := by decide +kernel

theorem rng_table_eq : ∀ i, i < 785 → Rng.key 1370359990842121 i = Gen.zkey i := by
  intro i hi
  have := checkFrom_spec 785 0 _ rng_table_check i hi
  simpa [Rng.key] using this

theorem keys_from_seed_good : KeysGood (Rng.key 1370359990842121) := by
  obtain ⟨h1, h2⟩ := keys_good
  constructor
  · intro i hi
    rw [rng_table_eq i hi]
    exact h1 i hi
  · intro i j hji hi
    rw [rng_table_eq i hi, rng_table_eq j (by omega)]
    exact h2 i j hji hi

/-! ### the table computed once (`Rng.tableList`, read through `Rng.table` and printed by `Rng.tableHex`) agrees with `Rng.key` -/

theorem nth_gens : ∀ (n : Nat) (r : BlockRng) (j : Nat), j < n →
    Rng.nth (Rng.gens n r) j = (Rng.iter (fun r => r.nextU64.2) j r).nextU64.1
  | 0, _, j, hj => by omega
  | n + 1, r, j, hj => by
    cases j with
    | zero => simp [Rng.gens, Rng.nth, Rng.iter]
    | succ j =>
      simp only [Rng.gens, Rng.nth, Rng.iter]
      exact nth_gens n _ j (by omega)

theorem length_gens : ∀ (n : Nat) (r : BlockRng), (Rng.gens n r).length = n
  | 0, _ => rfl
  | n + 1, r => by simp [Rng.gens, length_gens n]

theorem table_eq_key (seed i : Nat) (hi : i < 785) : Rng.table seed i = Rng.key seed i :=
  nth_gens 785 _ i hi

theorem tableList_length (seed : Nat) : (Rng.tableList seed).length = 785 := length_gens _ _

theorem table_eq_zkey : ∀ i, i < 785 → Rng.table Rng.zobristSeed i = Gen.zkey i := by
  intro i hi
  rw [table_eq_key _ i hi]
  exact rng_table_eq i hi

/-! ### independent test vectors of the block function (not needed for the theorems above) -/

/-- RFC 7539 §2.3.2 (ChaCha20 = 10 double rounds; key 00..1f, counter 1, nonce 00:00:00:09:00:00:00:4a:00:00:00:00):
`chachaBlock` with the counter/nonce row ⟨1, 0x09000000, 0x4a000000, 0⟩ gives the published block -/
theorem chacha20_rfc7539_vector :
    Rng.chachaBlock ⟨⟨0x03020100, 0x07060504, 0x0b0a0908, 0x0f0e0d0c⟩, ⟨0x13121110, 0x17161514, 0x1b1a1918, 0x1f1e1d1c⟩,
        ⟨0, 0, 0, 0⟩⟩ 10 ⟨1, 0x09000000, 0x4a000000, 0⟩ =
      [0xe4e7f110, 0x15593bd1, 0x1fdd0f50, 0xc47120a3, 0xc7f4d1c7, 0x0368c033, 0x9aaa2204, 0x4e6cd4c3,
       0x466482d2, 0x09aa9f07, 0x05d7c214, 0xa2028bd9, 0xd19c12b5, 0xb94e16de, 0xe883d0cb, 0x4e3c50a2] := by
  decide +kernel

/-- `rand_chacha-0.3.1/src/chacha.rs` `test_chacha_true_values_a` (ChaCha20, all-zero seed): blocks 0 and 1 -/
theorem chacha20_zero_seed_vector :
    ((Rng.ChaCha.new (Rng.zeros 32)).refill4 10).1.take 32 =
      [0xade0b876, 0x903df1a0, 0xe56a5d40, 0x28bd8653, 0xb819d2bd, 0x1aed8da0, 0xccef36a8,
       0xc70d778b, 0x7c5941da, 0x8d485751, 0x3fe02477, 0x374ad8b8, 0xf4b8436a, 0x1ca11815,
       0x69b687c3, 0x8665eeb2,
       0xbee7079f, 0x7a385155, 0x7c97ba98, 0x0d082d73, 0xa0290fcb, 0x6965e348, 0x3e53c612,
       0xed7aee32, 0x7621b729, 0x434ee69c, 0xb03371d5, 0xd539d874, 0x281fed31, 0x45fb0a51,
       0x1f0ae1ac, 0x6f4d794b] := by
  decide +kernel

end Chess.C07

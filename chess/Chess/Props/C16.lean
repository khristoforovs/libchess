import Chess.Model.Text
/-! # C16 — coordinate move text round-trips for every representable move

The printed text is `[letter] file rank file rank [= letter]`: one-byte characters, the only `=` being the promotion
separator.  The parser splits at `=`, slices the squares off the end of the first piece by byte offsets and reads the
letters.  So the round trip rests on three finite facts (64 squares, 6 letters) and on how `splitOn` and `sliceBytes`
act on such text; a promotion to pawn is not representable (`PieceMove::new` rejects it). -/
namespace Chess.C16
open Chess

theorem square_chars : ∀ s : Sq, (fileChar s.fl).utf8Size = 1 ∧ (rankChar s.rk).utf8Size = 1 ∧
    fileChar s.fl ≠ '=' ∧ rankChar s.rk ≠ '=' ∧ parseSquare [fileChar s.fl, rankChar s.rk] = .ok s := by decide

theorem letter_chars : ∀ p : PT, p.letter.utf8Size = 1 ∧ p.letter ≠ '=' ∧ p.letter ≠ 'O' ∧
    parsePieceType [p.letter] = .ok p := by intro p; cases p <;> decide

theorem roundtrip_piece (pt : PT) (src dst : Sq) (promo : Option PT) (hp : promo ≠ some .pawn) :
    parsePieceMove (printMove (.piece pt src dst promo)) = .ok (.piece pt src dst promo) := by
  cases pt <;> cases promo <;>
    simp_all [printMove, printSquare, parsePieceMove, splitOn, byteLen, sliceBytes, dropBytes, takeBytes,
      square_chars, letter_chars]

theorem roundtrip (m : Move) (hw : ∀ pt s d, m ≠ .piece pt s d (some .pawn)) : parseMove (printMove m) = .ok m := by
  match m with
  | .castle .king => decide
  | .castle .queen => decide
  | .piece pt src dst promo =>
    have h := roundtrip_piece pt src dst promo fun e => hw pt src dst (e ▸ rfl)
    -- not a castling word: 4, 6 or 7 characters, or 5 of which the first is a piece letter
    cases pt <;> cases promo <;> simp_all [parseMove, printMove, printSquare, letter_chars]

theorem print_injective (m₁ m₂ : Move) (h₁ : ∀ pt s d, m₁ ≠ .piece pt s d (some .pawn))
    (h₂ : ∀ pt s d, m₂ ≠ .piece pt s d (some .pawn)) (h : printMove m₁ = printMove m₂) : m₁ = m₂ := by
  have e1 := roundtrip m₁ h₁
  have e2 := roundtrip m₂ h₂
  rw [h, e2] at e1
  exact (Except.ok.inj e1).symm

example : parseMove "e7e8=Q".toList = .ok (.piece .pawn 52 60 (some .queen)) := by decide

end Chess.C16

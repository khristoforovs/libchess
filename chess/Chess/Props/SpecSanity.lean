import Chess.Lemmas.Valid
import Chess.Model.Text
/-! # Sanity of the SPECIFICATION text (tests, labelled as tests)

`Chess/Spec/Rules.lean` is part of the trusted base: the property theorems say "the model equals the specification", so the
specification has to say what the rules of chess say.  It is validated at run time against the implementation on tens of thousands
of positions; the statements below are additional, kernel-checked EVALUATIONS of the specification itself on positions with known
answers (the perft(1) values of the six standard perft roots used by the repository's suite, perft(2) of the start position,
one position of every status kind, en-passant and castling corner cases).  They are tests of the specification text on concrete
inputs, not theorems about all positions, and nothing else depends on them. -/
namespace Chess.SpecSanity
open Chess

def fenPos (s : String) : Option Spec.Pos :=
  match parseFen s.toList with
  | .ok bb => some bb.toPos
  | .error _ => none

/-- number of legal moves the SPECIFICATION gives in a position written as FEN (`999`: the FEN did not parse) -/
def nLegal (s : String) : Nat := match fenPos s with | some p => (Spec.legalMoves p).length | none => 999

/-- perft(2) by the specification -/
def perft2 (s : String) : Nat :=
  match fenPos s with
  | some p => ((Spec.legalMoves p).map fun m => (Spec.legalMoves (Spec.apply p m)).length).foldl (· + ·) 0
  | none => 999

def statusOf (s : String) : Option Spec.Status := (fenPos s).map Spec.status


/-! ### perft(1) of the six roots of the repository's suite (reference values 20, 48, 14, 6, 44, 46) -/
example : nLegal "rnbqkbnr/pppppppp/8/8/8/8/PPPPPPPP/RNBQKBNR w KQkq - 0 1" = 20 := by decide +kernel
example : nLegal "r3k2r/p1ppqpb1/bn2pnp1/3PN3/1p2P3/2N2Q1p/PPPBBPPP/R3K2R w KQkq - 0 1" = 48 := by decide +kernel
example : nLegal "8/2p5/3p4/KP5r/1R3p1k/8/4P1P1/8 w - - 0 1" = 14 := by decide +kernel
example : nLegal "r3k2r/Pppp1ppp/1b3nbN/nP6/BBP1P3/q4N2/Pp1P2PP/R2Q1RK1 w kq - 0 1" = 6 := by decide +kernel
example : nLegal "rnbq1k1r/pp1Pbppp/2p5/8/2B5/8/PPP1NnPP/RNBQK2R w KQ - 1 8" = 44 := by decide +kernel
example : nLegal "r4rk1/1pp1qppp/p1np1n2/2b1p1B1/2B1P1b1/P1NP1N2/1PP1QPPP/R4RK1 w - - 0 10" = 46 := by decide +kernel
/-! ### perft(2) of the start position (400) and of the en-passant / promotion heavy root 3 (191) -/
example : perft2 "rnbqkbnr/pppppppp/8/8/8/8/PPPPPPPP/RNBQKBNR w KQkq - 0 1" = 400 := by decide +kernel
example : perft2 "8/2p5/3p4/KP5r/1R3p1k/8/4P1P1/8 w - - 0 1" = 191 := by decide +kernel

/-! ### one position per status kind -/
-- fool's mate
example : statusOf "rnb1kbnr/pppp1ppp/8/4p3/6Pq/5P2/PPPPP2P/RNBQKBNR w KQkq - 1 3" = some (.checkmated .white) := by decide +kernel
-- stalemate (queen)
example : statusOf "7k/5Q2/8/8/8/8/8/K7 b - - 0 1" = some .stalemate := by decide +kernel
-- K+B v K: insufficient material; K+B v K+N: insufficient; K+R v K: not
example : statusOf "8/8/8/3k4/8/8/3B4/K7 w - - 0 1" = some .insufficient := by decide +kernel
example : statusOf "8/8/8/3k4/5n2/8/3B4/K7 w - - 0 1" = some .insufficient := by decide +kernel
example : statusOf "8/8/8/3k4/8/8/3R4/K7 w - - 40 1" = some .ongoing := by decide +kernel
-- fifty-move threshold: 99 ongoing, 100 drawn; stalemate takes precedence over both draws
example : statusOf "8/8/8/3k4/8/8/3R4/K7 w - - 99 80" = some .ongoing := by decide +kernel
example : statusOf "8/8/8/3k4/8/8/3R4/K7 w - - 100 80" = some .fifty := by decide +kernel
example : statusOf "7k/5Q2/8/8/8/8/8/K7 b - - 100 80" = some .stalemate := by decide +kernel
/-! ### en passant and castling corner cases -/
-- an en-passant capture that would uncover the king along the rank is not legal (root 3 family)
-- (Ka4, Ka6, Kb6, b6: four moves; bxc6 e.p. is not among them)
example : nLegal "8/8/8/KPp4r/8/8/8/7k w - c6 0 2" = 4 := by decide +kernel
-- no castling out of check (Kd2, Ke2, Kf2 only); castling with only b1 attacked is legal (5 king + 10 rook moves + O-O-O);
-- castling through the attacked d1 is not (3 king + 10 rook moves)
example : nLegal "4k3/8/8/8/8/8/8/R3K2r w Q - 0 1" = 3 := by decide +kernel
example : nLegal "1r2k3/8/8/8/8/8/8/R3K3 w Q - 0 1" = 16 := by decide +kernel
example : nLegal "3rk3/8/8/8/8/8/8/R3K3 w Q - 0 1" = 13 := by decide +kernel

end Chess.SpecSanity

import Chess.Lemmas.ChecksSpec
/-! # C05 — the check mask and the pin mask are exact

For every board a caller can hold (`Board.Valid`), with `p := b.absPos` the specification position it stands for:
* `b.checks` is exactly the set of enemy men attacking the king of the side to move (`Spec.checkers p`);
* `b.pinned` is exactly the set of own men standing alone between their king and an enemy rook, bishop or queen
  attacking along that line (`Spec.pinnedSet p`). -/
namespace Chess.C05
open Chess Board

theorem C05_checks {K : Keys} {b : Board} (hv : b.Valid K) (x : Sq) :
    mem x b.checks = true ↔ x ∈ Spec.checkers b.absPos := by
  have hk : Spec.kingSq? b.absPos.board b.absPos.stm = some (b.kingSq b.stm) := (hv.cons.theKing hv.pos b.stm).1
  simp only [Spec.checkers, hk, List.mem_filter]
  rw [hv.checks_eq, checks_spec hv.cons]
  exact ⟨fun h => ⟨List.mem_finRange x, h⟩, fun h => h.2⟩

theorem C05_pins {K : Keys} {b : Board} (hv : b.Valid K) (s : Sq) :
    mem s b.pinned = true ↔ s ∈ Spec.pinnedSet b.absPos := by
  have hk : Spec.kingSq? b.absPos.board b.absPos.stm = some (b.kingSq b.stm) := (hv.cons.theKing hv.pos b.stm).1
  -- `pinned_spec` says it with ∃ / ∀ over squares, `Spec.pinnedSet` with `any` / `all` over `allSq`
  simp only [Spec.pinnedSet, hk, List.mem_filter, hv.pinned_eq, pinned_spec hv.cons, Bool.and_eq_true, List.any_eq_true,
    List.all_eq_true, Bool.or_eq_true, Bool.not_eq_true', beq_iff_eq, Option.isNone_iff_eq_none, allSq, List.mem_finRange,
    true_and, and_assoc, ← Bool.not_eq_true, or_assoc]
  simp only [← Decidable.imp_iff_not_or, true_implies]
  rfl

theorem C05_inCheck {K : Keys} {b : Board} (hv : b.Valid K) :
    (!isBlank b.checks) = Spec.inCheck b.absPos.board b.absPos.stm :=
  hv.inCheck_eq

/-! `Rep` is inhabited by the empty board; a `Valid` board for every key table is built in `Props/C09.lean` (`C09.sample`) -/
example : Rep Board.new (fun _ => none) := rep_new

end Chess.C05

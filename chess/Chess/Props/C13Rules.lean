import Chess.Props.C12Refine
import Chess.Props.C14Refine
/-! # C13 in rule terms

`C13_flags` states the recorded per-move flags against the model's check mask and terminal flag of the successor.  For a game
that started from a `Valid` board (every game the API can construct: C09) these are exactly what the rules give for that move
(`Spec.isCapture`, `Spec.givesCheck`, `Spec.givesMate` on the rule-level position), every recorded position is the rule-level
successor of its predecessor, and each rendered move token is the declarative standard SAN of its move. -/
namespace Chess
open Board Spec
variable (K : Keys)

theorem C13_rules (g : Game) (hok : GameOK K g) (i : Nat) (hi : i < g.history.moves.length)
    (h1 : i < g.history.positions.length) (h2 : i + 1 < g.history.positions.length) (h3 : i < g.history.props.length) :
    Spec.legal g.history.positions[i].absPos g.history.moves[i] = true ∧
    g.history.positions[i + 1].absPos = Spec.apply g.history.positions[i].absPos g.history.moves[i] ∧
    g.history.props[i].isCapture = Spec.isCapture g.history.positions[i].absPos g.history.moves[i] ∧
    g.history.props[i].isCheck = Spec.givesCheck g.history.positions[i].absPos g.history.moves[i] ∧
    g.history.props[i].isMate = Spec.givesMate g.history.positions[i].absPos g.history.moves[i] ∧
    sanText g.history.moves[i] g.history.props[i] = (Spec.san g.history.positions[i].absPos g.history.moves[i]).toList := by
  obtain ⟨hr, hval, hcon⟩ := hok.all K
  obtain ⟨hnext, -, hprops⟩ := hr.inv.chain.step i hi
  have hvi := hval _ (List.getElem_mem h1)
  have hl := moveProps_spec_legal K _ hvi _ _ (hcon _ (List.getElem_mem hi)) hprops
  obtain ⟨hc, hm, hx⟩ := stdProps_flags hvi _ hl
  rw [((moveProps_ok_iff K).1 hprops).2, hnext]
  exact ⟨hl, (C02_successor K _ hvi _ hl).1, hx, hc, hm, sanText_stdProps hvi _ hl⟩

end Chess

import Chess.Lemmas.Construct
import Chess.Model.Text
/-! # C09 — position construction accepts exactly the valid positions

`TryFrom<&BoardBuilder> for ChessBoard` (`Board.ofBuilder`, reached from `from_fen`/`from_str` and from a piece list via
`BoardBuilder::setup`) succeeds exactly on the builders whose described position `bb.toPos` satisfies `Spec.ValidPos`:
one king per side, the side not to move not in check, every granted castling right backed by king and rook on their home
squares, and a consistent en-passant square.  The produced board stands for exactly that position and satisfies
`Board.Valid`, the predicate every other theorem assumes.  For an ARBITRARY key table `K`. -/
namespace Chess
open Board Construct
variable (K : Keys)

theorem C09_validate {b : Board} (hc : b.Cons) : b.validate = none ↔ Spec.ValidPos b.absPos = true := by
  have h : Rep b b.abs := hc
  -- `none` means that no clause fires; the three mask tests never do
  rw [validate_eq, validPos_iff]
  simp only [ite_some_eq_none, h.colors_disjoint, typeOverlap_false h, unionPieces_eq h, Bool.not_true, bne_self_eq_false,
    bne_iff_ne, ne_eq, Decidable.not_not, Bool.not_eq_true, Bool.false_eq_true, not_false_eq_true, and_true, true_and,
    Color.forall_iff, and_assoc]
  -- left: the six other tests of `validate`, in its order, against the six conjuncts of `validPos_iff`; those after the
  -- king counts are read with one king per side
  rw [h.popcount_king, h.popcount_king]
  refine and_congr_right fun hw => and_congr_right fun hb => ?_
  obtain ⟨k, hk, _⟩ := theKing_of_count (bd := b.abs) (c := b.stm.other) (by cases b.stm; exact hb; exact hw)
  rw [oppCheck_iff h hk, Bool.not_eq_true, epBad_absPos hc, rightsBad_absPos hc .white hw, rightsBad_absPos hc .black hb,
    Bool.not_eq_false']
  -- `validate` tests the en-passant square before the rights, `ValidPos` lists it after them
  exact and_congr_right fun _ => and_comm.trans and_assoc

theorem ofBuilder_ok_iff (bb : Builder) (b : Board) :
    Board.ofBuilder K bb = .ok b ↔
      (Spec.ValidPos bb.toPos = true ∧ b = (b3 K bb).updateTerminalStatus K) := by
  have hv := C09_validate (b3_rep K bb).cons
  rw [b3_absPos] at hv
  rw [ofBuilder_eq, (b0_rep K bb).popcount_king, (b0_rep K bb).popcount_king]
  constructor
  · -- an `.ok` comes only from the last branch: both king counts passed and `validate` returned `none`
    intro h
    split at h
    · cases h
    · split at h
      · cases h
      · split at h
        · next hval => cases h; exact ⟨hv.1 hval, rfl⟩
        · cases h
  · -- on a valid position all three tests evaluate
    rintro ⟨hp, rfl⟩
    have hval := hv.2 hp
    rw [show Spec.countPiece bb.pieces _ = 1 from validPos_king hp .white,
      show Spec.countPiece bb.pieces _ = 1 from validPos_king hp .black, hval]
    rfl

/-- SOUNDNESS: a successful construction yields a `Valid` board standing for exactly the builder's position
(so that position satisfies `Spec.ValidPos`: see `C09_sound_validPos`) -/
theorem C09_sound (bb : Builder) (b : Board) (h : Board.ofBuilder K bb = .ok b) :
    b.Valid K ∧ b.absPos = bb.toPos := by
  obtain ⟨hp, rfl⟩ := (ofBuilder_ok_iff K bb b).1 h
  have hpos : Spec.ValidPos ({ b1 K bb with full := bb.full, half := bb.half } : Board).absPos = true := by
    rw [b1_absPos]; exact hp
  exact ⟨.of_tail K (b1_rep K bb).cons hpos (calcHash_updatePinsAndChecks K _),
    (absPos_updateTerminalStatus K _).trans (b3_absPos K bb)⟩

theorem C09_sound_validPos (bb : Builder) (b : Board) (h : Board.ofBuilder K bb = .ok b) :
    Spec.ValidPos bb.toPos = true := ((ofBuilder_ok_iff K bb b).1 h).1

theorem C09_sound_clauses (bb : Builder) (b : Board) (h : Board.ofBuilder K bb = .ok b) :
    (Spec.countPiece b.abs ⟨.king, .white⟩ = 1 ∧ Spec.countPiece b.abs ⟨.king, .black⟩ = 1) ∧
    Spec.inCheck b.abs b.stm.other = false ∧
    (Spec.rightsOk b.absPos .white = true ∧ Spec.rightsOk b.absPos .black = true) ∧
    Spec.epOk b.absPos = true := by
  obtain ⟨hk, hc, hr, he⟩ := (validPos_iff b.absPos).1 (C09_sound K bb b h).1.pos
  exact ⟨⟨hk .white, hk .black⟩, hc, ⟨hr .white, hr .black⟩, he⟩

/-- COMPLETENESS: every builder describing a valid position is accepted -/
theorem C09_complete (bb : Builder) (hv : Spec.ValidPos bb.toPos = true) : ∃ b, Board.ofBuilder K bb = .ok b :=
  ⟨_, (ofBuilder_ok_iff K bb _).2 ⟨hv, rfl⟩⟩

/-- REJECTION: every builder describing an invalid position gets an error -/
theorem C09_error (bb : Builder) (hv : Spec.ValidPos bb.toPos = false) : ∃ e, Board.ofBuilder K bb = .error e := by
  cases h : Board.ofBuilder K bb with
  | error e => exact ⟨e, rfl⟩
  | ok b =>
    have := C09_sound_validPos K bb b h
    rw [hv] at this; exact Bool.noConfusion this

theorem C09_iff (bb : Builder) : (∃ b, Board.ofBuilder K bb = .ok b) ↔ Spec.ValidPos bb.toPos = true :=
  ⟨fun ⟨b, h⟩ => C09_sound_validPos K bb b h, C09_complete K bb⟩

theorem C09_ofFen (s : Str) (b : Board) (h : Board.ofFen K s = .ok b) : b.Valid K := by
  unfold Board.ofFen at h
  split at h
  · cases h
  · exact (C09_sound K _ b h).1

theorem C09_ofFen_pos (s : Str) (b : Board) (h : Board.ofFen K s = .ok b) :
    ∃ bb, parseFen s = .ok bb ∧ b.absPos = bb.toPos ∧ Spec.ValidPos bb.toPos = true := by
  unfold Board.ofFen at h
  split at h
  · cases h
  · next bb hb => exact ⟨bb, hb, (C09_sound K _ b h).2, C09_sound_validPos K _ b h⟩

/-- piece list: `BoardBuilder::setup` followed by the conversion yields a `Valid` board -/
theorem C09_setup (pl : List (Sq × Piece)) (stm : Color) (wr br : CR) (ep : Option Sq) (half full : Nat) (b : Board)
    (h : Board.ofBuilder K (Board.setupBuilder pl stm wr br ep half full) = .ok b) : b.Valid K :=
  (C09_sound K _ b h).1

/-! hypotheses are satisfiable: kings on e1/e8, white rooks on a1/h1 with both white castling rights, a black pawn that
has just played e7-e5 (en-passant square e6), White to move — accepted for every key table -/
def C09.sample : Builder :=
  { pieces := fun s =>
      if s = 4 then some ⟨.king, .white⟩ else if s = 0 then some ⟨.rook, .white⟩ else if s = 7 then some ⟨.rook, .white⟩
      else if s = 60 then some ⟨.king, .black⟩ else if s = 36 then some ⟨.pawn, .black⟩ else none,
    stm := .white, rights := fun c => match c with | .white => .both | .black => .neither,
    ep := some 44, half := 0, full := 1 }

theorem C09.sample_valid : Spec.ValidPos C09.sample.toPos = true := by decide +kernel

example : ∃ b, Board.ofBuilder K C09.sample = .ok b ∧ b.Valid K ∧ b.absPos = C09.sample.toPos := by
  obtain ⟨b, hb⟩ := C09_complete K _ C09.sample_valid
  exact ⟨b, hb, C09_sound K _ b hb⟩

/-- … and an invalid one (no kings) is rejected -/
example : ∃ e, Board.ofBuilder K Builder.new = .error e := C09_error K _ (by decide +kernel)

end Chess

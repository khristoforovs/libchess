import Chess.Lemmas.GameReach
import Chess.Props.C02
/-! # C13 — the game history (M1 level)

"The history holds the start position followed by one position per move, each obtained from its predecessor
by the recorded move, the last equal to the game's current position; indexing by ply returns those positions
and an error beyond the end; recorded per-move flags are what the rules give."

Proved for every game reachable from `Game.ofBoard` by accepted actions (`GameReach`); the chain is a field of the
invariant `Game.Inv` (`Lemmas/GameReach.lean`).  The flags are stated here against the model values `Board.isCapture`,
`Board.checks`, `Board.term`; the same in rule terms is `C13_rules` (`Props/C13Rules.lean`). -/
namespace Chess
open Chess.Game

variable (K : Keys)

/-- **C13 (chain).**  In every reachable game the history is the start position followed by one position per
move; each position is its predecessor after the recorded (legal) move; the recorded properties are those the
model computes for that move on that predecessor; the last position is the game's current position. -/
theorem C13_chain' (g : Game) (hr : GameReach K g) : History.Chain K g.history g.position :=
  hr.inv.chain

/-- **C13 (chain)**, clause by clause -/
theorem C13_chain (g : Game) (hr : GameReach K g) :
    g.history.positions.length = g.history.moves.length + 1 ∧
    g.history.props.length = g.history.moves.length ∧
    g.history.positions.getLast? = some g.position ∧
    ∀ (i : Nat) (hi : i < g.history.moves.length) (h1 : i < g.history.positions.length)
      (h2 : i + 1 < g.history.positions.length) (h3 : i < g.history.props.length),
      g.history.positions[i + 1] = g.history.positions[i].makeMoveUnchecked K g.history.moves[i] ∧
      g.history.positions[i].isLegalMove K g.history.moves[i] = true ∧
      g.history.positions[i].moveProps K g.history.moves[i] = .ok g.history.props[i] := by
  have h := C13_chain' K g hr
  exact ⟨h.len_pos, h.len_props, h.last, fun i hi _ _ _ => h.step i hi⟩

theorem C13_replay (g : Game) (hr : GameReach K g) (i : Nat) (hi : i < g.history.positions.length)
    (h0 : 0 < g.history.positions.length) :
    g.history.positions[i] = (g.history.moves.take i).foldl (fun b m => b.makeMoveUnchecked K m) g.history.positions[0] := by
  have h := C13_chain' K g hr
  induction i with
  | zero => simp
  | succ i ih =>
    have hlen := h.len_pos
    have him : i < g.history.moves.length := by omega
    rw [List.take_succ_eq_append_getElem him, List.foldl_append, ← ih (by omega)]
    exact (h.step i him).1

/-- **C13 (lookup).**  `get_position_on_move n` returns exactly the `n`-th position of the history -/
theorem C13_lookup (h : History) (n : Nat) (b : Board) :
    h.positionOnMove n = .ok b ↔ h.positions[n]? = some b := by
  unfold History.positionOnMove
  cases h.positions[n]? <;> simp

theorem C13.positionOnMove_lt (h : History) (n : Nat) (hn : n < h.positions.length) :
    h.positionOnMove n = .ok h.positions[n] := by
  simp [History.positionOnMove, List.getElem?_eq_getElem hn]

theorem C13.positionOnMove_ge (h : History) (n : Nat) (hn : h.positions.length ≤ n) :
    h.positionOnMove n = .error .wrongMoveNumber := by
  simp [History.positionOnMove, List.getElem?_eq_none hn]

/-- **C13 (lookup).**  The wrong-move-number error beyond the end, and only there -/
theorem C13_lookup_error (h : History) (n : Nat) :
    h.positionOnMove n = .error .wrongMoveNumber ↔ n ≥ h.positions.length := by
  refine ⟨fun he => Nat.le_of_not_lt fun hlt => ?_, C13.positionOnMove_ge h n⟩
  rw [C13.positionOnMove_lt h n hlt] at he
  cases he

theorem C13_lookup_reach (g : Game) (hr : GameReach K g) (n : Nat) :
    (∃ b, g.history.positionOnMove n = .ok b) ↔ n ≤ g.history.moves.length := by
  have hlen := (C13_chain' K g hr).len_pos
  constructor
  · rintro ⟨b, hb⟩
    rw [C13_lookup] at hb
    have := (List.getElem?_eq_some_iff.1 hb).1
    omega
  · intro hn
    exact ⟨_, C13.positionOnMove_lt _ n (by omega)⟩

theorem C13_lookup_last (g : Game) (hr : GameReach K g) :
    g.history.positionOnMove g.history.moves.length = .ok g.position := by
  rw [C13_lookup]
  exact hr.inv.chain.getElem?_last

theorem moveProps_flags (b : Board) (m : Move) (mp : MoveProps) (h : b.moveProps K m = .ok mp) :
    b.isLegalMove K m = true ∧
    mp.isCapture = b.isCapture m ∧
    mp.isCheck = decide (popcount (b.makeMoveUnchecked K m).checks > 0) ∧
    mp.isMate = ((b.makeMoveUnchecked K m).term && mp.isCheck) := by
  obtain ⟨hl, hc, hm, hx, -⟩ := Board.moveProps_inv K b m mp h
  exact ⟨hl, hx, hc, by rw [hm, hc]⟩

/-- **C13 (flags).**  For every recorded ply `i`: the capture flag is `is_capture` of the move on the position
before it, the check flag says the position after it has a non-empty check mask, the mate flag says that
position is moreover terminal. -/
theorem C13_flags (g : Game) (hr : GameReach K g) (i : Nat) (hi : i < g.history.moves.length)
    (h1 : i < g.history.positions.length) (h2 : i + 1 < g.history.positions.length) (h3 : i < g.history.props.length) :
    g.history.props[i].isCapture = g.history.positions[i].isCapture g.history.moves[i] ∧
    g.history.props[i].isCheck = decide (popcount g.history.positions[i + 1].checks > 0) ∧
    g.history.props[i].isMate = (g.history.positions[i + 1].term && g.history.props[i].isCheck) := by
  obtain ⟨hs, _, hp⟩ := (C13_chain' K g hr).step i hi
  obtain ⟨_, hc, hk, hm⟩ := moveProps_flags K _ _ _ hp
  rw [hs]
  exact ⟨hc, hk, hm⟩

example (b nb : Board) (m : Move) (h : b.makeMove K m = .ok nb) (hs : (ofBoard b).status = .ongoing) :
    ∃ g', (ofBoard b).act K (.move m) = .ok g' ∧ GameReach K g' ∧ g'.history.positions = [b, nb] ∧ g'.history.moves = [m] := by
  obtain ⟨hl, rfl⟩ := (C02_pure_iff K b nb m).1 h
  have ha : (ofBoard b).act K (.move m) = .ok ((ofBoard b).moved K m) := by
    rw [act_move, if_pos hs, ofBoard_position, hl]
    rfl
  exact ⟨_, ha, .step _ (.init b) ha, by simp [History.fromPosition], by simp [History.fromPosition]⟩

end Chess

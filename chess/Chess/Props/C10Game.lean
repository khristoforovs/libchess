import Chess.Props.C10Panic
import Chess.Props.C12Refine
import Chess.Props.C15
/-! # C10 (panic freedom) — the GAME layer: `Game::make_move`, `GameHistory::push`, `MovePropertiesOnBoard::new`,
`ChessBoard::get_legal_moves`, `get_status`, and the PGN importer `Game::from_pgn`

Mirror predicates as in `Chess/Props/C10Panic.lean` (`panicsHasEscape`, and with it every predicate here that evaluates
`make_move`, is an upper bound).

Data-dependent panic points of this layer (Rust file : function):

* (g) `game_history.rs : get_last_position` — `self.positions.last().unwrap()` on an empty history
* (h) `game_history.rs : push` — `MovePropertiesOnBoard::new(&board_move, &self.get_last_position()).unwrap()`: `Err` when the
      move is not legal in the LAST POSITION OF THE HISTORY (the model's `Game.act` evaluates `moveProps` on `g.position`; the
      mirror predicate `History.panicsPush` looks at `positions.getLast?`, and `C10_last_position` is the invariant that
      makes the two agree on reachable games)
* (i) `games.rs : from_pgn` loop — `MovePropertiesOnBoard::new(&m, &pos).unwrap()` for EVERY `m` of `get_legal_moves()`
* (j) `games.rs : from_pgn` tail — `make_move(&Resign(..)).unwrap()`, `make_move(&OfferDraw(White)).unwrap()
      .make_move(&AcceptDraw).unwrap()`, executed only when the status is `Ongoing`
* (k) inside `MovePropertiesOnBoard::new`: `board.make_move` (`Board.panicsMakeMove`), `get_move_ambiguity_type` →
      `is_legal_move` (`Board.panicsIsLegalMove`) and `get_legal_moves` (`Board.panicsGetLegalMoves`: `get_piece_moves_mask`,
      `get_check_mask_after_piece_move` behind the shortcut condition, `castling_is_available_on_board`).
      `PieceMove::new(pt, from, to, promo)` returns `Err(InvalidPromotionPiece)` exactly when `promo == Some(Pawn)` (no
      other test — equal squares are accepted); `get_legal_moves` calls it with `None` and, through `mv!`, with
      knight/bishop/rook/queen only, so that `unwrap` is not data dependent.
* (l) `chess_boards.rs : is_theoretical_draw_on_board` — the two `unreachable!()` arms (`Board.panicsTheoreticalDraw`),
      reached from `get_status` on a non-terminal board, hence from `update_game_status(None | Some(MakeMove))`.

Out of scope (not data dependent): `Regex::new(..).expect` on constant patterns, `cap[0]`/`cap[1]`/`cap[2]`/`x.get(0).unwrap()`
on groups that always participate, `Square::new(i)` for constant-range `i`, the counter overflow `+ 1` (defect K1). -/
namespace Chess
open Chess.Game

/-- an `Except` value is the error alternative (the mirror of `.unwrap()` on a `Result`) -/
def failed {α : Type} : Except Err α → Bool
  | .error _ => true
  | .ok _ => false

@[simp] theorem failed_ok {α : Type} (a : α) : failed (.ok a : Except Err α) = false := rfl
@[simp] theorem failed_error {α : Type} (e : Err) : failed (.error e : Except Err α) = true := rfl

namespace Board
variable (K : Keys)

/-- `get_legal_moves`: for every own man `get_piece_moves_mask`; for every pseudo-legal destination, behind the shortcut
condition, `get_check_mask_after_piece_move`; finally `castling_is_available_on_board(Some(check_mask))` -/
def panicsGetLegalMoves (b : Board) : Bool :=
  (PT.all.any fun pt =>
    (toList (b.colors b.stm &&& b.pieces pt)).any fun sq =>
      b.panicsPieceMovesMask pt sq ||
      (toList (b.pieceMovesMask pt sq)).any fun d =>
        b.needsFullCheck b.checks pt sq d && b.panicsCheckMaskAfter K pt sq d none) ||
  b.panicsCastlingAvailable (some b.checks)

/-- `get_move_ambiguity_type`: `is_legal_move`; an illegal move returns `Err` (no panic here); pawn and king moves return
early; every other piece type evaluates `get_legal_moves` -/
def panicsMoveAmbiguity (b : Board) (pt : PT) (src dst : Sq) (promo : Option PT) : Bool :=
  b.panicsIsLegalMove K (.piece pt src dst promo) ||
  (if !b.isLegalMove K (.piece pt src dst promo) then false else
   if pt == .pawn then false else
   if pt == .king then false else b.panicsGetLegalMoves K)

/-- `MovePropertiesOnBoard::new`: `board.make_move(m)?` (an `Err` is RETURNED — the `unwrap` belongs to the callers), the
flags (no panic point), then `get_move_ambiguity_type` for a non-king piece move -/
def panicsMoveProps (b : Board) (m : Move) : Bool :=
  b.panicsMakeMove K m ||
  (match b.makeMove K m with
   | .error _ => false
   | .ok _ =>
     match m with
     | .piece .king _ _ _ => false
     | .piece pt src dst promo => b.panicsMoveAmbiguity K pt src dst promo
     | .castle _ => false)

/-- `get_status`: `is_theoretical_draw_on_board` is evaluated only on a non-terminal board -/
def panicsGetStatus (b : Board) : Bool := if b.term then false else b.panicsTheoreticalDraw

end Board

namespace History
variable (K : Keys)

/-- `GameHistory::push(board_move, new_position)`: (g) `positions.last().unwrap()`, then (h)
`MovePropertiesOnBoard::new(&board_move, &last).unwrap()` — evaluated on the LAST HISTORY POSITION -/
def panicsPush (h : History) (m : Move) : Bool :=
  match h.positions.getLast? with
  | none => true
  | some last => last.panicsMoveProps K m || failed (last.moveProps K m)

end History

namespace Game
variable (K : Keys)

/-- `update_game_status(last_action)`: `get_status` of the current position for `None | Some(MakeMove(_))` only -/
def panicsUpdateStatus (g : Game) (last : Option Action) : Bool :=
  match last with
  | none | some (.move _) => g.position.panicsGetStatus
  | _ => false

/-- `Game::from_board` / `Game::default`: `update_game_status(None)` (`position_counter_increment` has no panic point
apart from the `+ 1` overflow) -/
def panicsOfBoard (b : Board) : Bool := b.panicsGetStatus

/-- `Game::make_move(action)`, in the Rust order: status dispatch; for a move `make_move_mut` on the position, then (only
when it succeeded) `position_counter_increment`, `history.push(m, new_position)`; for every accepted action
`update_game_status(Some(action))` on the updated game -/
def panicsAct (g : Game) (a : Action) : Bool :=
  match g.status with
  | .ongoing =>
    match a with
    | .move m =>
      g.position.panicsMakeMove K m ||
      (match g.position.makeMove K m with
       | .error _ => false
       | .ok nb => g.history.panicsPush K m || panicsUpdateStatus ({ g with position := nb } : Game) (some a))
    | .acceptDraw | .declineDraw => false
    | _ => panicsUpdateStatus g (some a)
  | .drawOffered _ =>
    match a with
    | .move _ | .offerDraw _ => false
    | _ => panicsUpdateStatus g (some a)
  | _ => false

/-- the loop of `from_pgn`, one round per token: `get_legal_moves()`; (i) `MovePropertiesOnBoard::new(&m, &pos).unwrap()`
for EVERY legal move; a missing key returns `Err(InvalidPGNString)`; `game.make_move(..)?` returns its error -/
def panicsReplaySan (g : Game) : List Str → Bool
  | [] => false
  | tok :: rest =>
    g.position.panicsGetLegalMoves K ||
    ((g.position.getLegalMoves K).any fun m => g.position.panicsMoveProps K m || failed (g.position.moveProps K m)) ||
    (match (sanCands K g tok).getLast? with
     | none => false
     | some m =>
       g.panicsAct K (.move m) ||
       (match g.act K (.move m) with
        | .error _ => false
        | .ok g' => panicsReplaySan g' rest))

/-- (j) the tail of `from_pgn`, executed when the status is `Ongoing`: every `make_move` result is unwrapped -/
def panicsPgnTail (g : Game) (res : Option Str) : Bool :=
  match res with
  | some r =>
    if r = "1-0".toList then g.panicsAct K (.resign .black) || failed (g.act K (.resign .black))
    else if r = "0-1".toList then g.panicsAct K (.resign .white) || failed (g.act K (.resign .white))
    else if r = "1/2-1/2".toList then
      g.panicsAct K (.offerDraw .white) ||
      (match g.act K (.offerDraw .white) with
       | .error _ => true
       | .ok g1 => g1.panicsAct K .acceptDraw || failed (g1.act K .acceptDraw))
    else false
  | none => false

/-- `Game::from_pgn` after `Game::default()`, in the order of `Game.ofPgnRegex`: the split (a missing moves section returns
`Err`), the replay loop, and — only when the loop returned `Ok` and the status is `Ongoing` — the tail -/
def panicsOfPgnRegex (start : Game) (pgn : Str) : Bool :=
  match PgnRegex.regexMovesSection pgn with
  | none => false
  | some ms =>
    panicsReplaySan K start (PgnRegex.findMoves ms) ||
    (match replaySan K start (PgnRegex.findMoves ms) with
     | .error _ => false
     | .ok g => if g.status = .ongoing then panicsPgnTail K g (PgnRegex.findResult ms) else false)

/-- the whole of `Game::from_pgn`: `Game::default()` = `from_board(ChessBoard::default())`, then the above -/
def panicsFromPgn (b0 : Board) (pgn : Str) : Bool :=
  panicsOfBoard b0 || panicsOfPgnRegex K (Game.ofBoard b0) pgn

end Game

section
variable (K : Keys)

theorem mem_getLegalMoves_constructible (b : Board) (m : Move) (h : m ∈ b.getLegalMoves K) :
    ∀ pt s d, m ≠ .piece pt s d (some .pawn) := by
  rintro pt s d rfl
  exact (promoShape_facts ((mem_getLegalMoves K b _).1 h).2.2.2).2.1 rfl

/-- **C10 (`get_legal_moves`).**  No panic point is reached on a valid board. -/
theorem C10_getLegalMoves_no_panic (b : Board) (hv : b.Valid K) : b.panicsGetLegalMoves K = false := by
  -- the loops evaluate a part of what `update_terminal_status` evaluates
  have h := no_panic_hasEscape K hv.cons hv.pos
  unfold Board.panicsHasEscape at h
  unfold Board.panicsGetLegalMoves
  rw [no_panic_castlingAvailable, Bool.or_false]
  simp only [List.any_eq_false, Bool.not_eq_true, Bool.or_eq_false_iff] at h ⊢
  intro pt hpt sq hsq
  refine ⟨(h pt hpt sq hsq).1, fun d hd => ?_⟩
  rw [(h pt hpt sq hsq).2 d hd, Bool.and_false]

theorem no_panic_moveAmbiguity (b : Board) (hv : b.Valid K) (pt : PT) (src dst : Sq) (promo : Option PT) :
    b.panicsMoveAmbiguity K pt src dst promo = false := by
  unfold Board.panicsMoveAmbiguity
  rw [no_panic_isLegalMove K hv.cons hv.pos, C10_getLegalMoves_no_panic K b hv]
  simp

/-- **C10 (`MovePropertiesOnBoard::new`).**  No panic point is reached for any constructible move value offered to a valid
board (the function returns `Ok` or `Err(IllegalMoveDetected)`). -/
theorem C10_moveProps_no_panic (b : Board) (hv : b.Valid K) (m : Move) (hw : ∀ pt s d, m ≠ .piece pt s d (some .pawn)) :
    b.panicsMoveProps K m = false := by
  unfold Board.panicsMoveProps
  rw [C10_makeMove_no_panic K b hv m hw, Bool.false_or]
  cases b.makeMove K m with
  | error e => rfl
  | ok nb =>
    cases m with
    | castle s => rfl
    | piece pt src dst promo =>
      cases pt <;> first | rfl | exact no_panic_moveAmbiguity K b hv _ src dst promo

/-- `get_status` on a valid board: both sides have a king, so the `unreachable!()` arms are dead -/
theorem C10_getStatus_no_panic (b : Board) (hv : b.Valid K) : b.panicsGetStatus = false := by
  unfold Board.panicsGetStatus
  split
  · rfl
  · exact panicsTheoreticalDraw_false hv.cons (validPos_king hv.pos .white) (validPos_king hv.pos .black)


/-- the invariant behind (g) and (h): in every reachable game the last position of the history IS the current position,
so `GameHistory::push` evaluates the move on the board it has just been made on (`Game.Inv.chain`) -/
theorem C10_last_position (g : Game) (hr : GameReach K g) : g.history.positions.getLast? = some g.position :=
  hr.inv.chain.last

theorem panicsAct_nonmove (g : Game) (a : Action) (hne : ∀ m, a ≠ .move m) : g.panicsAct K a = false := by
  unfold Game.panicsAct
  cases a with
  | move m => exact absurd rfl (hne m)
  | _ => cases g.status <;> rfl

theorem no_panic_push (g : Game) (hok : GameOK K g) (m : Move) (hw : ∀ pt s d, m ≠ .piece pt s d (some .pawn))
    (nb : Board) (hm : g.position.makeMove K m = .ok nb) : g.history.panicsPush K m = false := by
  unfold History.panicsPush
  rw [C10_last_position K g hok.reach]
  simp only [C10_moveProps_no_panic K g.position hok.position_valid m hw, Board.moveProps_legal K ((C02_pure_iff K _ _ _).1 hm).1,
    failed_ok, Bool.or_false]

/-- **C10 (`Game::make_move`).**  No panic point is reached for any constructible action offered to a game a caller can
hold: the call returns `Ok` or `Err(IllegalActionDetected | GameIsAlreadyFinished)`. -/
theorem C10_act_no_panic (g : Game) (hok : GameOK K g) (a : Action) (hc : Action.Constructible a) :
    g.panicsAct K a = false := by
  cases a with
  | move m =>
    have hv := hok.position_valid
    have hw : ∀ pt s d, m ≠ .piece pt s d (some .pawn) := hc
    unfold Game.panicsAct
    cases g.status with
    | ongoing =>
      simp only [C10_makeMove_no_panic K g.position hv m hw, Bool.false_or]
      cases hm : g.position.makeMove K m with
      | error e => rfl
      | ok nb =>
        have hnb : nb.Valid K := C06_step_checked _ _ hv m hw hm
        simp only [no_panic_push K g hok m hw nb hm, Game.panicsUpdateStatus, C10_getStatus_no_panic K nb hnb,
          Bool.or_false]
    | _ => rfl
  | _ => exact panicsAct_nonmove K g _ (by simp)

theorem C10_ofBoard_no_panic (b : Board) (hv : b.Valid K) : Game.panicsOfBoard b = false :=
  C10_getStatus_no_panic K b hv

/-- The branch of `Game.act` that stands for the `unwrap()` in `GameHistory::push` is unreachable — in ANY game value the
model evaluates `moveProps` on the board the move has just been accepted on. -/
theorem C10_act_unwrap_branch_unreachable (g : Game) (m : Move) (nb : Board)
    (hm : g.position.makeMove K m = .ok nb) : ∃ mp, g.position.moveProps K m = .ok mp :=
  C12.moveProps_ok K _ _ ((C02_pure_iff K _ _ _).1 hm).1

/-- where an error of `Game.act` comes from: the finished-game test, the protocol table, or the legality test of the move
— never the branch standing for the `unwrap` (there the move is legal) -/
theorem C10_act_error_origin (g : Game) (a : Action) (e : Err) (h : g.act K a = .error e) :
    (e = .gameFinished ∧ C12.finished g.status = true) ∨
    (e = .illegalAction ∧ ((∃ c, g.status = .drawOffered c) ∨ a = .acceptDraw ∨ a = .declineDraw ∨
      ∃ m, a = .move m ∧ g.status = .ongoing ∧ g.position.isLegalMove K m = false)) := by
  cases a with
  | move m =>
    rw [act_move] at h
    cases hs : g.status <;> cases hl : g.position.isLegalMove K m <;> simp_all [C12.finished]
  | _ =>
    rw [act_nonmove K g _ (by simp)] at h
    cases hs : g.status <;> simp_all [accepts, C12.finished]


theorem replaySan_cons (g : Game) (tok : Str) (rest : List Str) :
    replaySan K g (tok :: rest) =
      match (sanCands K g tok).getLast? with
      | none => .error .invalidPgn
      | some m =>
        match g.act K (.move m) with
        | .error e => .error e
        | .ok g' => replaySan K g' rest := by
  rw [replaySan]; rfl

theorem replaySan_ok_inv (toks : List Str) : ∀ (g g' : Game), GameOK K g → replaySan K g toks = .ok g' → GameOK K g' := by
  intro g g' hok h
  obtain ⟨ms, hp⟩ := replaySan_tokenPlay K toks g g' h
  clear h
  induction hp with
  | nil g => exact hok
  | cons mp hm _ _ ha _ ih => exact ih (.step (.move _) hok (mem_getLegalMoves_constructible K _ _ hm) ha)

/-- **C10 (the loop of `from_pgn`).**  From any game a caller can hold, for EVERY list of tokens, no panic point is reached
(in particular every `unwrap` of `MovePropertiesOnBoard::new` on a generated move succeeds). -/
theorem C10_replaySan_no_panic (toks : List Str) : ∀ (g : Game), GameOK K g → Game.panicsReplaySan K g toks = false := by
  induction toks with
  | nil => intro g _; rfl
  | cons tok rest ih =>
    intro g hok
    have hv := hok.position_valid
    have hall : ((g.position.getLegalMoves K).any fun m =>
        g.position.panicsMoveProps K m || failed (g.position.moveProps K m)) = false := by
      rw [List.any_eq_false]
      intro m hm
      have hw := mem_getLegalMoves_constructible K _ m hm
      rw [C10_moveProps_no_panic K _ hv m hw, Board.moveProps_legal K ((hv.isLegalMove_iff m hw).2 hm)]
      simp
    unfold Game.panicsReplaySan
    rw [C10_getLegalMoves_no_panic K _ hv, hall]
    simp only [Bool.false_or]
    cases hc : (sanCands K g tok).getLast? with
    | none => rfl
    | some m =>
      have hw := mem_getLegalMoves_constructible K _ m ((mem_sanCands K).1 (List.mem_of_getLast? hc)).1
      simp only [C10_act_no_panic K g hok (.move m) hw, Bool.false_or]
      cases ha : g.act K (.move m) with
      | error e => rfl
      | ok g1 => exact ih g1 (.step (.move m) hok hw ha)


theorem no_panic_pgnTail (g : Game) (hs : g.status = .ongoing) (res : Option Str) : Game.panicsPgnTail K g res = false := by
  cases res with
  | none => rfl
  | some r =>
    -- every action of the tail is a non-move, and the protocol accepts it in the status it meets
    simp only [Game.panicsPgnTail, panicsAct_nonmove, act_accepted, accepts, hs, updateStatus_status, failed_ok,
      Bool.or_false, ite_self, ne_eq, reduceCtorEq, not_false_eq_true, implies_true]

/-- **C10 (`from_pgn`, any start game a caller can hold).**  For EVERY input text no panic point is reached. -/
theorem C10_ofPgn_no_panic_of_ok (start : Game) (hok : GameOK K start) (s : Str) :
    Game.panicsOfPgnRegex K start s = false := by
  unfold Game.panicsOfPgnRegex
  cases PgnRegex.regexMovesSection s with
  | none => rfl
  | some ms =>
    simp only [C10_replaySan_no_panic K _ start hok, Bool.false_or]
    cases hr : replaySan K start (PgnRegex.findMoves ms) with
    | error e => rfl
    | ok g =>
      simp only
      split
      · next hs => exact no_panic_pgnTail K g hs _
      · rfl

theorem stdGame_ok (b0 : Board) (h0 : Board.ofBuilder K stdBuilder = .ok b0) : GameOK K (Game.ofBoard b0) :=
  .init b0 (stdBoard_facts K b0 h0).1

/-- **C10 (`Game::from_pgn`).**  For EVERY input text `s`, importing it from the standard initial position (`Game::default()`)
reaches no panic point. -/
theorem C10_ofPgn_no_panic (b0 : Board) (h0 : Board.ofBuilder K stdBuilder = .ok b0) (s : Str) :
    Game.panicsOfPgnRegex K (Game.ofBoard b0) s = false :=
  C10_ofPgn_no_panic_of_ok K _ (stdGame_ok K b0 h0) s

/-- … including the construction of the initial game itself, from ANY valid start board -/
theorem C10_fromPgn_no_panic_of_valid (b0 : Board) (hv : b0.Valid K) (s : Str) : Game.panicsFromPgn K b0 s = false := by
  unfold Game.panicsFromPgn
  rw [C10_ofBoard_no_panic K b0 hv, C10_ofPgn_no_panic_of_ok K _ (.init b0 hv) s]
  rfl

theorem C10_fromPgn_no_panic (b0 : Board) (h0 : Board.ofBuilder K stdBuilder = .ok b0) (s : Str) :
    Game.panicsFromPgn K b0 s = false :=
  C10_fromPgn_no_panic_of_valid K b0 (stdBoard_facts K b0 h0).1 s

theorem act_generated_error {g : Game} (hok : GameOK K g) (hb : boardStatus g.status = true) {m : Move}
    (hm : m ∈ g.position.getLegalMoves K) {e : Err} (ha : g.act K (.move m) = .error e) :
    C12.finished g.status = true ∧ e = .gameFinished := by
  have hl : g.position.isLegalMove K m = true :=
    (hok.position_valid.isLegalMove_iff m (mem_getLegalMoves_constructible K _ m hm)).2 hm
  rw [act_move, hl] at ha
  by_cases hs : g.status = .ongoing
  · rw [if_pos hs, if_pos rfl] at ha
    cases ha
  · have hf : C12.finished g.status = true := by
      cases hst : g.status <;> simp_all [C12.finished, boardStatus]
    rw [if_neg hs, if_pos hf] at ha
    exact ⟨hf, (Except.error.inj ha).symm⟩

/-- every failure of the loop: after a played prefix the next token has no candidate among the legal moves
(`InvalidPGNString`), or it has one but the game is finished (`GameIsAlreadyFinished`); a candidate offered to an ongoing
game is always accepted -/
theorem replaySan_failure (toks : List Str) : ∀ (g : Game), GameOK K g → boardStatus g.status = true → ∀ e,
    replaySan K g toks = .error e →
    ∃ pre tok rest ms g', toks = pre ++ tok :: rest ∧ TokenPlay K g pre ms g' ∧
      (((sanCands K g' tok).getLast? = none ∧ e = .invalidPgn) ∨
       (∃ m, (sanCands K g' tok).getLast? = some m ∧ C12.finished g'.status = true ∧ e = .gameFinished)) := by
  induction toks with
  | nil => intro g _ _ e h; cases h
  | cons tok rest ih =>
    intro g hok hb e h
    rw [replaySan_cons] at h
    cases hc : (sanCands K g tok).getLast? with
    | none => rw [hc] at h; cases h; exact ⟨[], tok, rest, [], g, rfl, .nil g, Or.inl ⟨hc, rfl⟩⟩
    | some m =>
      simp only [hc] at h
      obtain ⟨hmem, mp, hp, ht⟩ := (mem_sanCands K).1 (List.mem_of_getLast? hc)
      have hw := mem_getLegalMoves_constructible K _ m hmem
      cases ha : g.act K (.move m) with
      | ok g1 =>
        simp only [ha] at h
        obtain ⟨pre, tok', rest', ms, g', e1, hplay, hcase⟩ :=
          ih g1 (.step (.move m) hok hw ha) (act_move_boardStatus K g g1 m ha) e h
        exact ⟨tok :: pre, tok', rest', m :: ms, g', by rw [e1]; rfl, .cons mp hmem hp ht ha hplay, hcase⟩
      | error e' =>
        simp only [ha, Except.error.injEq] at h
        subst h
        exact ⟨[], tok, rest, [], g, rfl, .nil g, Or.inr ⟨m, hc, act_generated_error K hok hb hmem ha⟩⟩

/-- never `IllegalActionDetected`, the only code the `unwrap` branch of `Game.act` produces -/
theorem replaySan_errors (toks : List Str) : ∀ (g : Game), GameOK K g → boardStatus g.status = true → ∀ e,
    replaySan K g toks = .error e → e = .invalidPgn ∨ e = .gameFinished := by
  intro g hok hb e h
  obtain ⟨_, _, _, _, _, _, _, ⟨_, rfl⟩ | ⟨_, _, _, rfl⟩⟩ := replaySan_failure K toks g hok hb e h
  · exact Or.inl rfl
  · exact Or.inr rfl

theorem C10_ofPgn_errors_of_ok (start : Game) (hok : GameOK K start) (hb : boardStatus start.status = true) (s : Str)
    (e : Err) (h : Game.ofPgnRegex K start s = .error e) : e = .invalidPgn ∨ e = .gameFinished := by
  cases hm : PgnRegex.regexMovesSection s with
  | none =>
    rw [ofPgnRegex_no_section K hm] at h
    cases h
    exact Or.inl rfl
  | some ms =>
    rw [ofPgnRegex_of_section K hm, Game.importOf] at h
    cases hr : replaySan K start (PgnRegex.findMoves ms) with
    | error e' =>
      rw [hr] at h
      obtain rfl : e' = e := Except.error.inj h
      exact replaySan_errors K _ start hok hb e' hr
    | ok g => rw [hr] at h; cases h

/-- **C10 (`from_pgn`, error kinds).**  For EVERY input text the import from the standard initial position fails only with
`InvalidPGNString` or `GameIsAlreadyFinished`. -/
theorem C10_ofPgn_errors (b0 : Board) (h0 : Board.ofBuilder K stdBuilder = .ok b0) (s : Str) (e : Err)
    (h : Game.ofPgnRegex K (Game.ofBoard b0) s = .error e) : e = .invalidPgn ∨ e = .gameFinished :=
  C10_ofPgn_errors_of_ok K _ (stdGame_ok K b0 h0) (ofBoard_boardStatus b0) s e h

theorem C10_ofPgn_total_of_ok (start : Game) (hok : GameOK K start) (hb : boardStatus start.status = true) (s : Str) :
    (∃ g, Game.ofPgnRegex K start s = .ok g) ∨
    (∃ e, Game.ofPgnRegex K start s = .error e ∧ (e = .invalidPgn ∨ e = .gameFinished)) := by
  cases h : Game.ofPgnRegex K start s with
  | ok g => exact Or.inl ⟨g, rfl⟩
  | error e => exact Or.inr ⟨e, rfl, C10_ofPgn_errors_of_ok K _ hok hb s e h⟩

/-- **C10 (`from_pgn`).**  `Ok(game)` or `Err(InvalidPGNString | GameIsAlreadyFinished)` (that the game is one a caller can
hold is `C15_import_reach_ok`). -/
theorem C10_ofPgn_total (b0 : Board) (h0 : Board.ofBuilder K stdBuilder = .ok b0) (s : Str) :
    (∃ g, Game.ofPgnRegex K (Game.ofBoard b0) s = .ok g) ∨
    (∃ e, Game.ofPgnRegex K (Game.ofBoard b0) s = .error e ∧ (e = .invalidPgn ∨ e = .gameFinished)) :=
  C10_ofPgn_total_of_ok K _ (stdGame_ok K b0 h0) (ofBoard_boardStatus b0) s

/-! ## `Game::default()` as the Rust builds it: `ChessBoard::from_str(<start FEN>).unwrap()` -/

def defaultFen : Str := "rnbqkbnr/pppppppp/8/8/8/8/PPPPPPPP/RNBQKBNR w KQkq - 0 1".toList

theorem defaultFen_valid :
    (match parseFen defaultFen with | .ok bb => Spec.ValidPos bb.toPos | .error _ => false) = true := by decide +kernel

theorem C10_default_board : ∃ b0, Board.ofFen K defaultFen = .ok b0 ∧ b0.Valid K := by
  have h := defaultFen_valid
  unfold Board.ofFen
  cases hp : parseFen defaultFen with
  | error e => rw [hp] at h; cases h
  | ok bb =>
    rw [hp] at h
    obtain ⟨b0, hb0⟩ := C09_complete K bb h
    exact ⟨b0, hb0, (C09_sound K bb b0 hb0).1⟩

/-- **C10 (`Game::from_pgn`, end to end).**  `ChessBoard::default()` yields a board (its construction reaches no panic point:
`C10_ofFen_no_panic`), and for EVERY input text the import from it reaches no panic point and returns a game or one of the
errors `InvalidPGNString`, `GameIsAlreadyFinished`. -/
theorem C10_fromPgn_default :
    Board.panicsOfFen K defaultFen = false ∧
    ∃ b0, Board.ofFen K defaultFen = .ok b0 ∧ ∀ s : Str,
      Game.panicsFromPgn K b0 s = false ∧
      ((∃ g, Game.ofPgnRegex K (Game.ofBoard b0) s = .ok g) ∨
       (∃ e, Game.ofPgnRegex K (Game.ofBoard b0) s = .error e ∧ (e = .invalidPgn ∨ e = .gameFinished))) := by
  refine ⟨C10_ofFen_no_panic' K defaultFen, ?_⟩
  obtain ⟨b0, hb0, hv⟩ := C10_default_board K
  exact ⟨b0, hb0, fun s => ⟨C10_fromPgn_no_panic_of_valid K b0 hv s,
    C10_ofPgn_total_of_ok K _ (.init b0 hv) (ofBoard_boardStatus b0) s⟩⟩

/-! ## non-vacuity

The mirror predicates of this file DO fire on game / board values outside the reachable ones, and the hypotheses of the
theorems are satisfiable. -/

theorem std_e4_legal (b0 : Board) (h0 : Board.ofBuilder K stdBuilder = .ok b0) :
    b0.isLegalMove K (.piece .pawn 12 28 none) = true :=
  stdBoard_e4_isLegalMove K b0 h0

theorem new_e4_illegal : Board.new.isLegalMove K (.piece .pawn 12 28 none) = false := by
  have h1 : Board.new.term = false := rfl
  have h2 : isBlank (Board.new.pieces .pawn &&& Board.new.colors Board.new.stm &&& bbOf 12) = true := by decide +kernel
  unfold Board.isLegalMove
  simp only [h1, h2, if_true, Bool.false_eq_true, if_false]

/-- (g) fires, for every key table: the standard initial game with its history emptied — `1. e4` is accepted by the position,
then `positions.last().unwrap()` panics -/
example (b0 : Board) (h0 : Board.ofBuilder K stdBuilder = .ok b0) :
    ({ Game.ofBoard b0 with history := ⟨[], [], []⟩ } : Game).panicsAct K (.move (.piece .pawn 12 28 none)) = true := by
  unfold Game.panicsAct
  simp only [stdGame_ongoing K b0 h0, ofBoard_position, Board.makeMove, std_e4_legal K b0 h0, if_true,
    History.panicsPush, List.getLast?_nil, Bool.true_or, Bool.or_true]

/-- (h) fires, for every key table: the last history position (an empty board) differs from the current position (the
standard one); `1. e4` is legal on the latter, illegal on the former, and `MovePropertiesOnBoard::new(..).unwrap()` panics.
This is exactly the situation `C10_last_position` excludes for reachable games. -/
example (b0 : Board) (h0 : Board.ofBuilder K stdBuilder = .ok b0) :
    ({ Game.ofBoard b0 with history := History.fromPosition Board.new } : Game).panicsAct K
      (.move (.piece .pawn 12 28 none)) = true := by
  have hmp : failed (Board.new.moveProps K (.piece .pawn 12 28 none)) = true := by
    rw [Board.moveProps_eq, new_e4_illegal K]
    rfl
  unfold Game.panicsAct
  simp only [stdGame_ongoing K b0 h0, ofBoard_position, Board.makeMove, std_e4_legal K b0 h0, if_true,
    History.panicsPush, History.fromPosition, List.getLast?_singleton, hmp, Bool.true_or, Bool.or_true]

example (b0 : Board) (h0 : Board.ofBuilder K stdBuilder = .ok b0) :
    (Game.ofBoard b0).panicsAct K (.move (.piece .pawn 12 28 none)) = false :=
  C10_act_no_panic K _ (stdGame_ok K b0 h0) _ (by intro _ _ _ e; cases e)

/-- the standard initial board exists for every key table, so `C10_ofPgn_no_panic` is not vacuous -/
example : ∃ b0, Board.ofBuilder K stdBuilder = .ok b0 ∧ ∀ s : Str, Game.panicsOfPgnRegex K (Game.ofBoard b0) s = false := by
  obtain ⟨b0, h0⟩ := stdBoard_exists K
  exact ⟨b0, h0, C10_ofPgn_no_panic K b0 h0⟩

end

def zeroKeys : Keys := ⟨fun _ _ _ => 0#64, fun _ _ => 0#64, fun _ => 0#64, 0#64⟩

/-- a board value no constructor returns: one white pawn on e2, no kings, and a non-empty check mask -/
def lonePawn : Board :=
  { Board.new with pieces := fun t => if t = .pawn then bbOf 12 else 0#64,
                   colors := fun c => if c = .white then bbOf 12 else 0#64,
                   combined := bbOf 12, checks := bbOf 12 }
def lonePawnQuiet : Board := { lonePawn with checks := 0#64, rights := fun _ => .neither }
def lonePawnGame : Game := ⟨lonePawn, History.fromPosition lonePawn, [], .ongoing, []⟩

/-- `get_legal_moves` panics on the king-less board "in check": the filter runs `get_check_mask_after_piece_move`, whose
`get_king_square` has no king to find … -/
example : lonePawn.panicsGetLegalMoves zeroKeys = true := by decide +kernel
/-- … and does not when the shortcut skips the full evaluation (the predicate follows the shortcut condition) -/
example : lonePawnQuiet.panicsGetLegalMoves zeroKeys = false := by decide +kernel
/-- `MovePropertiesOnBoard::new` panics there: `e3` passes `is_legal_move`, then `make_move` runs `update_pins_and_checks`
for a side without king -/
example : lonePawnQuiet.panicsMoveProps zeroKeys (.piece .pawn 12 20 none) = true := by decide +kernel
example : Board.new.panicsGetStatus = true := by decide +kernel
example (tok : Str) (rest : List Str) : Game.panicsReplaySan zeroKeys lonePawnGame (tok :: rest) = true := by
  have h : lonePawnGame.position.panicsGetLegalMoves zeroKeys = true := by decide +kernel
  unfold Game.panicsReplaySan; rw [h]; rfl
/-- the importer panics on a text with a moves section holding one token … -/
example : Game.panicsOfPgnRegex zeroKeys lonePawnGame ['\n', '\n', 'e', '4'] = true := by decide +kernel
/-- … but not on a text without moves section (`Err(InvalidPGNString)` before anything else) -/
example : Game.panicsOfPgnRegex zeroKeys lonePawnGame ['e', '4'] = false := by decide +kernel

end Chess

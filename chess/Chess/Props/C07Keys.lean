import Chess.Gen.ZobristKeys
/-! C07 (key table part): all 785 published keys are non-zero and pairwise distinct.
`Gen/ZobristKeys.lean` is regenerated from the running implementation whenever its dump differs from the
committed table, and the kernel check is re-run on the new table. -/
namespace Chess.C07

def allN (p : Nat → Bool) : Nat → Bool
  | 0 => true
  | n + 1 => p n && allN p n

theorem allN_spec (p : Nat → Bool) : ∀ n, allN p n = true → ∀ i, i < n → p i = true
  | 0, _, i, hi => by omega
  | n + 1, h, i, hi => by
    simp only [allN, Bool.and_eq_true] at h
    rcases Nat.lt_succ_iff_lt_or_eq.1 hi with h' | h'
    · exact allN_spec p n h.2 i h'
    · subst h'; exact h.1

def KeysGood (k : Nat → Nat) : Prop := (∀ i, i < 785 → k i ≠ 0) ∧ (∀ i j, j < i → i < 785 → k i ≠ k j)

/-- the keys `k (n-1), …, k 0` of class `c` (the top four bits of a 64-bit key).  Equal keys are in the same class, so
pairwise distinctness is checked class by class: about 16 · 49²/2 comparisons, where all pairs would be 785²/2 -/
def bucket (k : Nat → Nat) (c : Nat) : Nat → List Nat
  | 0 => []
  | n + 1 => if (k n >>> 60) % 16 = c then k n :: bucket k c n else bucket k c n

def distinct : List Nat → Bool
  | [] => true
  | x :: xs => !xs.contains x && distinct xs

theorem mem_bucket (k : Nat → Nat) (c : Nat) : ∀ n j, j < n → (k j >>> 60) % 16 = c → k j ∈ bucket k c n
  | n + 1, j, hj, hc => by  -- `n = 0` is excluded by `j < n`
    rcases Nat.lt_succ_iff_lt_or_eq.1 hj with h | rfl
    · have := mem_bucket k c n j h hc
      unfold bucket; split <;> simp [this]
    · simp [bucket, hc]

theorem bucket_distinct (k : Nat → Nat) (c : Nat) : ∀ n, distinct (bucket k c n) = true →
    ∀ i j, j < i → i < n → (k i >>> 60) % 16 = c → k i ≠ k j
  | n + 1, h, i, j, hji, hi, hc, e => by
    unfold bucket at h
    rcases Nat.lt_succ_iff_lt_or_eq.1 hi with hi | rfl
    · refine bucket_distinct k c n ?_ i j hji hi hc e
      split at h
      · simp only [distinct, Bool.and_eq_true] at h; exact h.2
      · exact h
    · simp only [hc, if_true, distinct, Bool.and_eq_true, Bool.not_eq_true', List.contains_eq_mem,
        decide_eq_false_iff_not] at h
      have hcj : (k j >>> 60) % 16 = c := e ▸ hc
      exact h.1 (e ▸ mem_bucket k c i j hji hcj)

def keysCheck (k : Nat → Nat) : Bool :=
  allN (fun i => !(Nat.beq (k i) 0)) 785 && allN (fun c => distinct (bucket k c 785)) 16

theorem KeysGood.of_check {k : Nat → Nat} (h : keysCheck k = true) : KeysGood k := by
  simp only [keysCheck, Bool.and_eq_true] at h
  constructor
  · intro i hi e
    have := allN_spec _ 785 h.1 i hi
    simp [e] at this
  · intro i j hji hi
    exact bucket_distinct k _ 785 (allN_spec _ 16 h.2 _ (Nat.mod_lt _ (by decide))) i j hji hi rfl

theorem keys_good : KeysGood Gen.zkey := .of_check (by decide +kernel)

end Chess.C07

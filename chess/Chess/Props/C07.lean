import Chess.Lemmas.Hash
import Chess.Props.C02
import Chess.Props.C09
import Chess.Props.C07Keys
/-! C07: for every reachable position the stored hash equals the hash recomputed from scratch and equals
the XOR of the published per-feature keys of its pieces, side to move, castling rights and en-passant
file; the hash is therefore independent of the path and of the clocks; and, the published keys being
non-zero and pairwise distinct, positions that differ in exactly one feature never share a hash.
Every statement except the two about `publishedKeys` is for an ARBITRARY key table `K`. -/
namespace Chess
open Board
variable (K : Keys)

/-- mask consistency survives `make_move_mut_unchecked` (any move, legal or not) -/
theorem C07_cons (b : Board) (hc : b.Cons) (hh : b.hash = b.calcHash K) (m : Move) :
    (b.makeMoveUnchecked K m).Cons :=
  (Board.HashOk.makeMoveUnchecked K ⟨hc, hh⟩ m).1

/-- after `make_move_mut_unchecked` the incrementally maintained hash equals the hash from scratch -/
theorem C07_incremental (b : Board) (hc : b.Cons) (hh : b.hash = b.calcHash K) (m : Move) :
    (b.makeMoveUnchecked K m).hash = (b.makeMoveUnchecked K m).calcHash K :=
  (Board.HashOk.makeMoveUnchecked K ⟨hc, hh⟩ m).2

/-- the stored hash of a board is the XOR of the per-feature keys of the position it stands for -/
theorem C07_hash_spec (b : Board) (hc : b.Cons) (hh : b.hash = b.calcHash K) : b.hash = K.specHash b.absPos := by
  rw [hh, calcHash_spec K hc]

theorem C07_hash_spec_step (b : Board) (hc : b.Cons) (hh : b.hash = b.calcHash K) (m : Move) :
    (b.makeMoveUnchecked K m).hash = K.specHash (b.makeMoveUnchecked K m).absPos :=
  C07_hash_spec K _ (C07_cons K b hc hh m) (C07_incremental K b hc hh m)

theorem C07_reachable (b : Board) (hc : b.Cons) (hh : b.hash = b.calcHash K) (ms : List Move) :
    (ms.foldl (fun b m => b.makeMoveUnchecked K m) b).Cons ∧
    (ms.foldl (fun b m => b.makeMoveUnchecked K m) b).hash = (ms.foldl (fun b m => b.makeMoveUnchecked K m) b).calcHash K := by
  induction ms generalizing b with
  | nil => exact ⟨hc, hh⟩
  | cons m ms ih => exact ih _ (C07_cons K b hc hh m) (C07_incremental K b hc hh m)

theorem C07_makeMove (b b' : Board) (hc : b.Cons) (hh : b.hash = b.calcHash K) (m : Move)
    (h : b.makeMove K m = .ok b') : b'.Cons ∧ b'.hash = b'.calcHash K := by
  obtain ⟨_, rfl⟩ := (C02_pure_iff K b b' m).1 h
  exact ⟨C07_cons K b hc hh m, C07_incremental K b hc hh m⟩

theorem C07_ofBuilder (bb : Builder) (b : Board) (h : Board.ofBuilder K bb = .ok b) :
    b.Cons ∧ b.hash = b.calcHash K :=
  have hv := (C09_sound K bb b h).1
  ⟨hv.cons, hv.hash_eq⟩

theorem C07_ofFen (s : Str) (b : Board) (h : Board.ofFen K s = .ok b) : b.Cons ∧ b.hash = b.calcHash K :=
  have hv := C09_ofFen K s b h
  ⟨hv.cons, hv.hash_eq⟩

namespace C07

theorem clearSquare_ok {b : Board} (hc : b.Cons) (hh : b.hash = b.calcHash K) (s : Sq) :
    (b.clearSquare K s).Cons ∧ (b.clearSquare K s).hash = (b.clearSquare K s).calcHash K :=
  ((Board.HashOk.inv K ⟨hc, hh⟩).clearSquare K s).hashOk K

theorem putPiece_ok {b : Board} (hc : b.Cons) (hh : b.hash = b.calcHash K) (p : Piece) (s : Sq) :
    (b.putPiece K p s).Cons ∧ (b.putPiece K p s).hash = (b.putPiece K p s).calcHash K :=
  ((Board.HashOk.inv K ⟨hc, hh⟩).putPiece K p s).hashOk K

theorem setSideToMove_ok {b : Board} (hc : b.Cons) (hh : b.hash = b.calcHash K) (c : Color) :
    (b.setSideToMove K c).Cons ∧ (b.setSideToMove K c).hash = (b.setSideToMove K c).calcHash K :=
  ((Board.HashOk.inv K ⟨hc, hh⟩).setSideToMove K c).hashOk K

theorem setCastlingRights_ok {b : Board} (hc : b.Cons) (hh : b.hash = b.calcHash K) (c : Color) (r : CR) :
    (b.setCastlingRights K c r).Cons ∧ (b.setCastlingRights K c r).hash = (b.setCastlingRights K c r).calcHash K :=
  ((Board.HashOk.inv K ⟨hc, hh⟩).setCastlingRights K c r).hashOk K

theorem setEnPassant_ok {b : Board} (hc : b.Cons) (hh : b.hash = b.calcHash K) (e : Option Sq) :
    (b.setEnPassant K e).Cons ∧ (b.setEnPassant K e).hash = (b.setEnPassant K e).calcHash K :=
  ((Board.HashOk.inv K ⟨hc, hh⟩).setEnPassant K e).hashOk K

theorem movePiece_ok {b : Board} (hc : b.Cons) (hh : b.hash = b.calcHash K) (pt : PT) (src dst : Sq) (promo : Option PT) :
    (b.movePiece K pt src dst promo).Cons ∧
      (b.movePiece K pt src dst promo).hash = (b.movePiece K pt src dst promo).calcHash K :=
  Board.HashOk.movePiece K ⟨hc, hh⟩ pt src dst promo

theorem clearIfEp_ok {b : Board} (hc : b.Cons) (hh : b.hash = b.calcHash K) (pt : PT) (dst : Sq) :
    (b.clearIfEp K pt dst).Cons ∧ (b.clearIfEp K pt dst).hash = (b.clearIfEp K pt dst).calcHash K :=
  Board.HashOk.clearIfEp K ⟨hc, hh⟩ pt dst

theorem updateCastlingRights_ok {b : Board} (hc : b.Cons) (hh : b.hash = b.calcHash K) (m : Move) :
    (b.updateCastlingRights K m).Cons ∧ (b.updateCastlingRights K m).hash = (b.updateCastlingRights K m).calcHash K :=
  ((Board.HashOk.inv K ⟨hc, hh⟩).updateCastlingRights K m).hashOk K

theorem updateEnPassant_ok {b : Board} (hc : b.Cons) (hh : b.hash = b.calcHash K) (m : Move) :
    (b.updateEnPassant K m).Cons ∧ (b.updateEnPassant K m).hash = (b.updateEnPassant K m).calcHash K :=
  ((Board.HashOk.inv K ⟨hc, hh⟩).updateEnPassant K m).hashOk K

theorem HashFrame.core {b b' : Board} (h : HashFrame b b') : SameCore b' b :=
  ⟨h.2.1, h.2.2.1, h.2.2.2.1, h.2.2.2.2.1, h.2.2.2.2.2.1, h.2.2.2.2.2.2⟩

theorem HashFrame.calcHash_eq {b b' : Board} (h : HashFrame b b') : b'.calcHash K = b.calcHash K :=
  h.core.calcHash K

theorem HashFrame.cons {b b' : Board} (h : HashFrame b b') (hc : b.Cons) : b'.Cons :=
  (Rep.of_masks hc h.core.pieces h.core.colors h.core.combined).cons

end C07

/-- same placement, side, rights and en-passant FILE ⇒ same hash (however reached, whatever the clocks,
pins, checks and terminal flag) -/
theorem C07_path_independent_file (b₁ b₂ : Board) (h₁ : b₁.Cons) (h₂ : b₂.Cons)
    (hh₁ : b₁.hash = b₁.calcHash K) (hh₂ : b₂.hash = b₂.calcHash K)
    (hk : b₁.abs = b₂.abs ∧ b₁.stm = b₂.stm ∧ b₁.rights = b₂.rights ∧ b₁.ep.map epFile = b₂.ep.map epFile) :
    b₁.hash = b₂.hash := by
  obtain ⟨ha, hs, hr, he⟩ := hk
  rw [hh₁, hh₂, Rep.calcHash K h₁, Rep.calcHash K h₂, ha, hs, hr, normHash_ep_congr K _ _ _ he]

theorem C07_path_independent (b₁ b₂ : Board) (h₁ : b₁.Cons) (h₂ : b₂.Cons)
    (hh₁ : b₁.hash = b₁.calcHash K) (hh₂ : b₂.hash = b₂.calcHash K)
    (hk : b₁.abs = b₂.abs ∧ b₁.stm = b₂.stm ∧ b₁.rights = b₂.rights ∧ b₁.ep = b₂.ep) :
    b₁.hash = b₂.hash :=
  C07_path_independent_file K b₁ b₂ h₁ h₂ hh₁ hh₂ ⟨hk.1, hk.2.1, hk.2.2.1, by rw [hk.2.2.2]⟩

theorem specHash_clocks (p q : Spec.Pos) (hb : p.board = q.board) (hs : p.stm = q.stm) (hr : p.rights = q.rights)
    (he : p.ep.map epFile = q.ep.map epFile) : K.specHash p = K.specHash q := by
  rw [specHash_eq_normHash, specHash_eq_normHash, hb, hs, hr, normHash_ep_congr K _ _ _ he]

structure KeysDistinct (K : Keys) : Prop where
  piece_ne_zero : ∀ c t s, K.piece c t s ≠ 0#64
  castle_ne_zero : ∀ c r, K.castle c r ≠ 0#64
  ep_ne_zero : ∀ f, K.ep f ≠ 0#64
  black_ne_zero : K.black ≠ 0#64
  piece_inj : ∀ c t s c' t' s', K.piece c t s = K.piece c' t' s' → c = c' ∧ t = t' ∧ s = s'
  castle_inj : ∀ c r c' r', K.castle c r = K.castle c' r' → c = c' ∧ r = r'
  ep_inj : ∀ f f', K.ep f = K.ep f' → f = f'
  piece_ne_castle : ∀ c t s c' r, K.piece c t s ≠ K.castle c' r
  piece_ne_ep : ∀ c t s f, K.piece c t s ≠ K.ep f
  piece_ne_black : ∀ c t s, K.piece c t s ≠ K.black
  castle_ne_ep : ∀ c r f, K.castle c r ≠ K.ep f
  castle_ne_black : ∀ c r, K.castle c r ≠ K.black
  ep_ne_black : ∀ f, K.ep f ≠ K.black

variable {K}

theorem KeysDistinct.occ_inj (hK : KeysDistinct K) (s : Sq) {v v' : Option Piece} (h : K.occ v s = K.occ v' s) :
    v = v' := by
  cases v with
  | none =>
    cases v' with
    | none => rfl
    | some q => exact absurd h.symm (hK.piece_ne_zero _ _ _)
  | some p =>
    cases v' with
    | none => exact absurd h (hK.piece_ne_zero _ _ _)
    | some q =>
      obtain ⟨h1, h2, _⟩ := hK.piece_inj _ _ _ _ _ _ h
      obtain ⟨pt, pc⟩ := p; obtain ⟨qt, qc⟩ := q
      simp_all

theorem KeysDistinct.stmKey_inj (hK : KeysDistinct K) {c c' : Color} (h : K.stmKey c = K.stmKey c') : c = c' := by
  cases c <;> cases c' <;> simp [Keys.stmKey] at h ⊢
  · exact hK.black_ne_zero h.symm
  · exact hK.black_ne_zero h

theorem KeysDistinct.epKey_inj (hK : KeysDistinct K) {e e' : Option Sq} (h : K.epKey e = K.epKey e') :
    e.map epFile = e'.map epFile := by
  cases e <;> cases e' <;> simp only [Keys.epKey, Option.map_none, Option.map_some] at h ⊢
  · exact absurd h.symm (hK.ep_ne_zero _)
  · exact absurd h (hK.ep_ne_zero _)
  · rw [hK.ep_inj _ _ h]

theorem CR.ofBits_rights_inj {r r' : Spec.Rights} (h : CR.ofBits r.k r.q = CR.ofBits r'.k r'.q) : r = r' := by
  obtain ⟨k, q⟩ := r; obtain ⟨k', q'⟩ := r'
  cases k <;> cases q <;> cases k' <;> cases q' <;> simp [CR.ofBits] at h ⊢

theorem xor_two_cancel {a x y : BB} (h : a = a ^^^ x ^^^ y) : x = y := by
  have h' : a ^^^ 0#64 = a ^^^ (x ^^^ y) := by rw [← BitVec.xor_assoc, BitVec.xor_zero]; exact h
  exact BitVec.xor_eq_zero_iff.1 ((BitVec.xor_right_inj a).1 h').symm

/-! Each of the four: write both hashes in normal form over the components the positions share; by the update law of the
remaining component the second is the first with two keys XORed on, so the two keys are equal, hence the component. -/

/-- (a) positions that differ in the side to move only have different hashes -/
theorem C07_sep_stm (hK : KeysDistinct K) (p q : Spec.Pos) (hb : p.board = q.board) (hr : p.rights = q.rights)
    (he : p.ep.map epFile = q.ep.map epFile) (hs : p.stm ≠ q.stm) : K.specHash p ≠ K.specHash q := by
  intro h
  rw [specHash_eq_normHash, specHash_eq_normHash, ← hb, ← hr, ← normHash_ep_congr K _ _ _ he] at h
  exact hs (hK.stmKey_inj (xor_two_cancel (h.trans (normHash_stm K _ _ _ _ _))))

/-- (b) positions that differ in the content of exactly one square (empty vs occupied, or two different
men) have different hashes -/
theorem C07_sep_square (hK : KeysDistinct K) (p q : Spec.Pos) (s : Sq)
    (hb : ∀ x, x ≠ s → p.board x = q.board x) (hd : p.board s ≠ q.board s)
    (hs : p.stm = q.stm) (hr : p.rights = q.rights) (he : p.ep.map epFile = q.ep.map epFile) :
    K.specHash p ≠ K.specHash q := by
  intro h
  have hq : q.board = Spec.upd p.board s (q.board s) := by
    funext x; by_cases hx : x = s
    · subst hx; simp [Spec.upd]
    · simp [Spec.upd, hx, hb x hx]
  rw [specHash_eq_normHash, specHash_eq_normHash, hq, ← hs, ← hr, ← normHash_ep_congr K _ _ _ he] at h
  exact hd (hK.occ_inj s (xor_two_cancel (h.trans (normHash_upd K _ _ _ _ _ _))))

/-- (c) positions that differ in the castling rights of exactly one colour have different hashes -/
theorem C07_sep_rights (hK : KeysDistinct K) (p q : Spec.Pos) (c : Color)
    (hd : p.rights c ≠ q.rights c) (ho : p.rights c.other = q.rights c.other)
    (hb : p.board = q.board) (hs : p.stm = q.stm) (he : p.ep.map epFile = q.ep.map epFile) :
    K.specHash p ≠ K.specHash q := by
  intro h
  rw [specHash_eq_normHash, specHash_eq_normHash, ← hb, ← hs, ← normHash_ep_congr K _ _ _ he] at h
  have h2 := xor_two_cancel (h.trans (normHash_rights K p.board p.stm (fun x => CR.ofBits (p.rights x).k (p.rights x).q)
    (fun x => CR.ofBits (q.rights x).k (q.rights x).q) p.ep c (by simp only [ho])))
  exact hd (CR.ofBits_rights_inj (hK.castle_inj _ _ _ _ h2).2)

/-- (d) positions that differ in the en-passant file only (including none vs some) have different hashes -/
theorem C07_sep_ep (hK : KeysDistinct K) (p q : Spec.Pos) (hd : p.ep.map epFile ≠ q.ep.map epFile)
    (hb : p.board = q.board) (hs : p.stm = q.stm) (hr : p.rights = q.rights) :
    K.specHash p ≠ K.specHash q := by
  intro h
  rw [specHash_eq_normHash, specHash_eq_normHash, ← hb, ← hs, ← hr] at h
  exact hd (hK.epKey_inj (xor_two_cancel (h.trans (normHash_ep K _ _ _ _ _))))

theorem C07_sep_stm_board (hK : KeysDistinct K) (b₁ b₂ : Board) (h₁ : b₁.Cons) (h₂ : b₂.Cons)
    (hh₁ : b₁.hash = b₁.calcHash K) (hh₂ : b₂.hash = b₂.calcHash K)
    (ha : b₁.abs = b₂.abs) (hr : b₁.rights = b₂.rights) (he : b₁.ep.map epFile = b₂.ep.map epFile)
    (hs : b₁.stm ≠ b₂.stm) : b₁.hash ≠ b₂.hash := by
  rw [C07_hash_spec K b₁ h₁ hh₁, C07_hash_spec K b₂ h₂ hh₂]
  exact C07_sep_stm hK _ _ ha (by simp [Board.absPos, hr]) he hs

theorem C07_sep_square_board (hK : KeysDistinct K) (b₁ b₂ : Board) (h₁ : b₁.Cons) (h₂ : b₂.Cons)
    (hh₁ : b₁.hash = b₁.calcHash K) (hh₂ : b₂.hash = b₂.calcHash K) (s : Sq)
    (ha : ∀ x, x ≠ s → b₁.abs x = b₂.abs x) (hd : b₁.abs s ≠ b₂.abs s)
    (hs : b₁.stm = b₂.stm) (hr : b₁.rights = b₂.rights) (he : b₁.ep.map epFile = b₂.ep.map epFile) :
    b₁.hash ≠ b₂.hash := by
  rw [C07_hash_spec K b₁ h₁ hh₁, C07_hash_spec K b₂ h₂ hh₂]
  exact C07_sep_square hK _ _ s ha hd hs (by simp [Board.absPos, hr]) he

theorem C07_sep_rights_board (hK : KeysDistinct K) (b₁ b₂ : Board) (h₁ : b₁.Cons) (h₂ : b₂.Cons)
    (hh₁ : b₁.hash = b₁.calcHash K) (hh₂ : b₂.hash = b₂.calcHash K) (c : Color)
    (hd : b₁.rights c ≠ b₂.rights c) (ho : b₁.rights c.other = b₂.rights c.other)
    (ha : b₁.abs = b₂.abs) (hs : b₁.stm = b₂.stm) (he : b₁.ep.map epFile = b₂.ep.map epFile) :
    b₁.hash ≠ b₂.hash := by
  rw [C07_hash_spec K b₁ h₁ hh₁, C07_hash_spec K b₂ h₂ hh₂]
  exact C07_sep_rights hK _ _ c (fun h => hd (CR.toRights_inj h)) (by simp [Board.absPos, ho]) ha hs he

theorem C07_sep_ep_board (hK : KeysDistinct K) (b₁ b₂ : Board) (h₁ : b₁.Cons) (h₂ : b₂.Cons)
    (hh₁ : b₁.hash = b₁.calcHash K) (hh₂ : b₂.hash = b₂.calcHash K)
    (hd : b₁.ep.map epFile ≠ b₂.ep.map epFile)
    (ha : b₁.abs = b₂.abs) (hs : b₁.stm = b₂.stm) (hr : b₁.rights = b₂.rights) : b₁.hash ≠ b₂.hash := by
  rw [C07_hash_spec K b₁ h₁ hh₁, C07_hash_spec K b₂ h₂ hh₂]
  exact C07_sep_ep hK _ _ hd ha hs (by simp [Board.absPos, hr])

theorem Color.idx_le (c : Color) : c.idx ≤ 1 := by cases c <;> simp [Color.idx]
theorem PT.idx_le (t : PT) : t.idx ≤ 5 := by cases t <;> simp [PT.idx]
theorem CR.idx_le (r : CR) : r.idx ≤ 3 := by cases r <;> simp [CR.idx]
theorem Color.idx_inj {c c' : Color} (h : c.idx = c'.idx) : c = c' := by cases c <;> cases c' <;> simp_all [Color.idx]
theorem PT.idx_inj {t t' : PT} (h : t.idx = t'.idx) : t = t' := by cases t <;> cases t' <;> simp_all [PT.idx]
theorem CR.idx_inj {r r' : CR} (h : r.idx = r'.idx) : r = r' := by cases r <;> cases r' <;> simp_all [CR.idx]

theorem KeysDistinct.ofFn (k : Nat → BB) (hnz : ∀ i, i < 785 → k i ≠ 0#64)
    (hinj : ∀ i j, i < 785 → j < 785 → k i = k j → i = j) : KeysDistinct (Keys.ofFn k) := by
  -- index ranges of the layout: black-to-move 0, pieces [1, 769), castling [769, 777), en-passant files [777, 785)
  have hp : ∀ (c : Color) (t : PT) (s : Sq), 1 + c.idx * 384 + t.idx * 64 + s.val < 769 := by
    intro c t s
    have := Color.idx_le c
    have := PT.idx_le t
    have := s.isLt
    omega
  have hc : ∀ (c : Color) (r : CR), 769 + c.idx * 4 + r.idx < 777 := by
    intro c r
    have := Color.idx_le c
    have := CR.idx_le r
    omega
  have he : ∀ f : Fin 8, 777 + f.val < 785 := by
    intro f
    have := f.isLt
    omega
  have hp' : ∀ (c : Color) (t : PT) (s : Sq), 1 + c.idx * 384 + t.idx * 64 + s.val < 785 := fun c t s =>
    Nat.lt_trans (hp c t s) (by omega)
  have hc' : ∀ (c : Color) (r : CR), 769 + c.idx * 4 + r.idx < 785 := fun c r => Nat.lt_trans (hc c r) (by omega)
  constructor
  case piece_ne_zero => exact fun c t s => hnz _ (hp' c t s)
  case castle_ne_zero => exact fun c r => hnz _ (hc' c r)
  case ep_ne_zero => exact fun f => hnz _ (he f)
  case black_ne_zero => exact hnz 0 (by omega)
  -- within a class the index determines the components (mixed radix with digits in range)
  case piece_inj =>
    intro c t s c' t' s' h
    have h1 := hinj _ _ (hp' c t s) (hp' c' t' s') h
    have := Color.idx_le c
    have := Color.idx_le c'
    have := PT.idx_le t
    have := PT.idx_le t'
    have := s.isLt
    have := s'.isLt
    exact ⟨Color.idx_inj (by omega), PT.idx_inj (by omega), Fin.ext (by omega)⟩
  case castle_inj =>
    intro c r c' r' h
    have h1 := hinj _ _ (hc' c r) (hc' c' r') h
    have := Color.idx_le c
    have := Color.idx_le c'
    have := CR.idx_le r
    have := CR.idx_le r'
    exact ⟨Color.idx_inj (by omega), CR.idx_inj (by omega)⟩
  case ep_inj =>
    intro f f' h
    have h1 := hinj _ _ (he f) (he f') h
    exact Fin.ext (by omega)
  -- keys of different classes have indices in different ranges
  case piece_ne_castle =>
    intro c t s c' r h
    have h1 := hinj _ _ (hp' c t s) (hc' c' r) h
    have := hp c t s
    omega
  case piece_ne_ep =>
    intro c t s f h
    have h1 := hinj _ _ (hp' c t s) (he f) h
    have := hp c t s
    omega
  case piece_ne_black =>
    intro c t s h
    have h1 := hinj _ 0 (hp' c t s) (by omega) h
    omega
  case castle_ne_ep =>
    intro c r f h
    have h1 := hinj _ _ (hc' c r) (he f) h
    have := hc c r
    omega
  case castle_ne_black =>
    intro c r h
    have h1 := hinj _ 0 (hc' c r) (by omega) h
    omega
  case ep_ne_black =>
    intro f h
    have h1 := hinj _ 0 (he f) (by omega) h
    omega

theorem zkey_lt (i : Nat) : Gen.zkey i < 2 ^ 64 := by
  unfold Gen.zkey
  exact Nat.lt_of_le_of_lt Nat.and_le_right (by decide)

/-- the key table the implementation publishes, as 64-bit words -/
def publishedKeys : Keys := Keys.ofFn fun i => BitVec.ofNat 64 (Gen.zkey i)

/-- the published keys are non-zero and pairwise distinct (from the kernel-checked `C07.keys_good`) -/
theorem keysDistinct_published : KeysDistinct publishedKeys := by
  have hinjN : ∀ i j, i < 785 → j < 785 → Gen.zkey i = Gen.zkey j → i = j := by
    intro i j hi hj h
    rcases Nat.lt_trichotomy i j with hlt | heq | hgt
    · exact absurd h.symm (C07.keys_good.2 j i hlt hj)
    · exact heq
    · exact absurd h (C07.keys_good.2 i j hgt hi)
  have hof : ∀ a b : Nat, a < 2 ^ 64 → b < 2 ^ 64 → BitVec.ofNat 64 a = BitVec.ofNat 64 b → a = b := by
    intro a b ha hb h
    have := congrArg BitVec.toNat h
    simpa [BitVec.toNat_ofNat, Nat.mod_eq_of_lt ha, Nat.mod_eq_of_lt hb] using this
  apply KeysDistinct.ofFn
  · intro i hi h
    exact C07.keys_good.1 i hi (hof _ 0 (zkey_lt i) (by decide) h)
  · intro i j hi hj h
    exact hinjN i j hi hj (hof _ _ (zkey_lt i) (zkey_lt j) h)

/-- for the published table the hypothesis on the keys is discharged (`keysDistinct_published`); stated for the side to
move, the other three features go the same way -/
theorem C07_published_sep_stm (p q : Spec.Pos) (hb : p.board = q.board) (hr : p.rights = q.rights)
    (he : p.ep.map epFile = q.ep.map epFile) (hs : p.stm ≠ q.stm) :
    publishedKeys.specHash p ≠ publishedKeys.specHash q :=
  C07_sep_stm keysDistinct_published p q hb hr he hs

/-! hypotheses are satisfiable: the empty board with its hash computed from scratch -/
example : let b : Board := { Board.new with hash := Board.new.calcHash K }
    b.Cons ∧ b.hash = b.calcHash K := by
  intro b
  exact ⟨(rep_new.of_masks (b' := b) rfl rfl rfl).cons, rfl⟩

end Chess

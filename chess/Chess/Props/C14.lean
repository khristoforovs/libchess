import Chess.Lemmas.SanBoard
/-! # C14 — short algebraic notation identifies every legal move uniquely, in standard form (M1 level)

Property text: "short algebraic notation identifies every legal move uniquely, in standard form … PGN-standard
disambiguation (none when unneeded, else origin file, else origin rank, else both, counting only pieces that can
legally make the move), so that no two legal moves of a position ever render to the same text.  Asking for the
notation properties of an illegal move returns an error." -/
namespace Chess
open Board

variable (K : Keys)

theorem C14_illegal (b : Board) (m : Move) (h : b.isLegalMove K m = false) : ∃ e, b.moveProps K m = .error e := by
  rw [moveProps_eq, h]
  exact ⟨_, rfl⟩

theorem C14_illegal_iff (b : Board) (m : Move) :
    b.isLegalMove K m = false ↔ b.moveProps K m = .error .illegalMove := by
  rw [moveProps_eq]
  cases b.isLegalMove K m <;> simp

theorem C14_standard_parts (b : Board) (pt : PT) (src dst : Sq) (promo : Option PT) (p : MoveProps)
    (h : b.moveProps K (.piece pt src dst promo) = .ok p) :
    sanText (.piece pt src dst promo) p =
      (match pt with | .pawn => [] | t => [t.letter]) ++
      (match b.stdAmb K (.piece pt src dst promo) with
        | .neither => [] | .extraFile => [fileChar src.fl] | .extraRank => [rankChar src.rk]
        | .extraSquare => [fileChar src.fl, rankChar src.rk]) ++
      (if b.isCapture (.piece pt src dst promo) then ['x'] else []) ++
      [fileChar dst.fl, rankChar dst.rk] ++
      (match promo with | some t => ['=', t.letter] | none => []) ++
      (if (b.makeMoveUnchecked K (.piece pt src dst promo)).term &&
            decide (popcount (b.makeMoveUnchecked K (.piece pt src dst promo)).checks > 0) then ['#']
       else if decide (popcount (b.makeMoveUnchecked K (.piece pt src dst promo)).checks > 0) then ['+'] else []) := by
  obtain ⟨_, hc, hm, hx, ha⟩ := moveProps_inv K b _ p h
  rw [sanText_piece, sanC, sanChk, hm, hc, hx, ha]
  cases pt <;> cases promo <;> cases b.stdAmb K _ <;> rfl

theorem C14_standard_castle (b : Board) (s : Side) (p : MoveProps) (h : b.moveProps K (.castle s) = .ok p) :
    sanText (.castle s) p =
      (match s with | .king => ['O', '-', 'O'] | .queen => ['O', '-', 'O', '-', 'O']) ++
      (if (b.makeMoveUnchecked K (.castle s)).term &&
            decide (popcount (b.makeMoveUnchecked K (.castle s)).checks > 0) then ['#']
       else if decide (popcount (b.makeMoveUnchecked K (.castle s)).checks > 0) then ['+'] else []) := by
  obtain ⟨_, hc, hm, _, _⟩ := moveProps_inv K b _ p h
  rw [sanText_castle, sanC, sanChk, hm, hc]
  cases s <;> rfl

theorem ambKind_iff (R : List Sq) (s : Sq) :
    (ambKind R s = .neither ↔ R = []) ∧
    (ambKind R s = .extraFile ↔ R ≠ [] ∧ ∀ x ∈ R, x.fl ≠ s.fl) ∧
    (ambKind R s = .extraRank ↔ R ≠ [] ∧ ¬(∀ x ∈ R, x.fl ≠ s.fl) ∧ ∀ x ∈ R, x.rk ≠ s.rk) ∧
    (ambKind R s = .extraSquare ↔ R ≠ [] ∧ ¬(∀ x ∈ R, x.fl ≠ s.fl) ∧ ¬(∀ x ∈ R, x.rk ≠ s.rk)) := by
  unfold ambKind
  by_cases hR : R = []
  · subst hR; simp
  · have hE : R.isEmpty = false := by cases R <;> simp_all
    simp only [hE, Bool.not_false, if_true, List.all_eq_true, bne_iff_ne]
    -- in each case the chain has become one constructor, and `hR`, `hF`, `hK` decide the four lines of the statement
    by_cases hF : ∀ x ∈ R, x.fl ≠ s.fl
    · simp only [if_pos hF]
      grind
    · simp only [if_neg hF]
      by_cases hK : ∀ x ∈ R, x.rk ≠ s.rk
      · simp only [if_pos hK]; grind
      · simp only [if_neg hK]; grind

/-- PGN-standard disambiguation of a legal knight, bishop, rook or queen move: the rivals are the origins of the
other *legal* moves of a piece of the same type to the same destination; no extra character when there is none,
else the origin file when it separates from all rivals, else the origin rank when it does, else both.
(A pawn prints its origin file exactly when it changes file, a king never prints anything: by `Board.stdAmb`.) -/
theorem C14_disambiguation (b : Board) (pt : PT) (src dst : Sq) (promo : Option PT) (p : MoveProps)
    (h : b.moveProps K (.piece pt src dst promo) = .ok p) (hp : pt ≠ .pawn) (hk : pt ≠ .king) :
    (∀ s, s ∈ b.rivals K pt src dst ↔ s ≠ src ∧ ∃ pr, Move.piece pt s dst pr ∈ b.getLegalMoves K) ∧
    (p.amb = .neither ↔ b.rivals K pt src dst = []) ∧
    (p.amb = .extraFile ↔ b.rivals K pt src dst ≠ [] ∧ ∀ x ∈ b.rivals K pt src dst, x.fl ≠ src.fl) ∧
    (p.amb = .extraRank ↔ b.rivals K pt src dst ≠ [] ∧ ¬(∀ x ∈ b.rivals K pt src dst, x.fl ≠ src.fl) ∧
        ∀ x ∈ b.rivals K pt src dst, x.rk ≠ src.rk) ∧
    (p.amb = .extraSquare ↔ b.rivals K pt src dst ≠ [] ∧ ¬(∀ x ∈ b.rivals K pt src dst, x.fl ≠ src.fl) ∧
        ¬(∀ x ∈ b.rivals K pt src dst, x.rk ≠ src.rk)) := by
  obtain ⟨-, -, -, -, hamb⟩ := moveProps_inv K b _ p h
  rw [hamb, stdAmb_other K b hp hk]
  exact ⟨mem_rivals K b pt src dst, ambKind_iff _ _⟩

theorem C14_disambiguation_pawn_king (b : Board) (pt : PT) (src dst : Sq) (promo : Option PT) (p : MoveProps)
    (h : b.moveProps K (.piece pt src dst promo) = .ok p) :
    (pt = .pawn → p.amb = if src.fl ≠ dst.fl then .extraFile else .neither) ∧ (pt = .king → p.amb = .neither) := by
  obtain ⟨-, -, -, -, hamb⟩ := moveProps_inv K b _ p h
  rw [hamb]
  constructor
  · rintro rfl
    exact stdAmb_pawn K b src dst promo
  · rintro rfl
    exact stdAmb_king K b src dst promo

theorem C14_text_inversion {pt₁ pt₂ : PT} {src₁ src₂ dst₁ dst₂ : Sq} {promo₁ promo₂ : Option PT} {p₁ p₂ : MoveProps}
    (h : sanText (.piece pt₁ src₁ dst₁ promo₁) p₁ = sanText (.piece pt₂ src₂ dst₂ promo₂) p₂) :
    pt₁ = pt₂ ∧ dst₁ = dst₂ ∧ promo₁ = promo₂ ∧ sanD p₁.amb src₁ = sanD p₂.amb src₂ ∧
    p₁.isCapture = p₂.isCapture ∧ sanChk p₁.isMate p₁.isCheck = sanChk p₂.isMate p₂.isCheck :=
  sanText_piece_inj h

theorem ambKind_spec (R : List Sq) (s x : Sq) (hx : x ∈ R) :
    (ambKind R s = .extraFile ∧ x.fl ≠ s.fl) ∨ (ambKind R s = .extraRank ∧ x.rk ≠ s.rk) ∨ ambKind R s = .extraSquare := by
  have hR : R ≠ [] := by rintro rfl; cases hx
  obtain ⟨h0, h1, h2, h3⟩ := ambKind_iff R s
  by_cases hF : ∀ x ∈ R, x.fl ≠ s.fl
  · exact Or.inl ⟨h1.2 ⟨hR, hF⟩, hF x hx⟩
  · by_cases hK : ∀ x ∈ R, x.rk ≠ s.rk
    · exact Or.inr (Or.inl ⟨h2.2 ⟨hR, hF, hK⟩, hK x hx⟩)
    · exact Or.inr (Or.inr (h3.2 ⟨hR, hF, hK⟩))

/-- an origin never gets the disambiguation characters of one of its rivals, whatever kind the rival prints -/
theorem ambKind_sep (R : List Sq) (s x : Sq) (a : Amb) (hx : x ∈ R) (hD : sanD (ambKind R s) s = sanD a x) : s = x := by
  rcases ambKind_spec R s x hx with ⟨e, n⟩ | ⟨e, n⟩ | e <;> rw [e] at hD
  · -- `s` prints its file, which is not `x`'s: a one-character rival text is another file or a rank character
    cases a <;> simp only [sanD, printSquare, List.cons.injEq, and_true, reduceCtorEq, and_false] at hD
    · exact absurd (fileChar_fl_inj hD).symm n
    · exact absurd hD (ne_of_chClass (by simp [chClass_fileChar, chClass_rankChar]))
  · -- `s` prints its rank, which is not `x`'s
    cases a <;> simp only [sanD, printSquare, List.cons.injEq, and_true, reduceCtorEq, and_false] at hD
    · exact absurd hD (ne_of_chClass (by simp [chClass_fileChar, chClass_rankChar]))
    · exact absurd (rankChar_rk_inj hD).symm n
  · -- `s` prints its square: only a whole square has two characters
    cases a <;> simp only [sanD, printSquare, List.cons.injEq, and_true, reduceCtorEq, and_false] at hD
    exact Sq.ext_rk_fl (rankChar_rk_inj hD.2) (fileChar_fl_inj hD.1)

/-- **C14 (uniqueness, core form).**  On a board where
* `hl`   every move accepted by the legality test without promotion piece is in the generated list (the part of C03 used),
* `hking` the side to move has at most one king,
* `hocc` the men of the side to move are in the occupancy mask (mask consistency),
no two moves with notation properties (= legal moves) render to the same text. -/
theorem C14_injective_core (b : Board) (m₁ m₂ : Move) (p₁ p₂ : MoveProps)
    (h₁ : b.moveProps K m₁ = .ok p₁) (h₂ : b.moveProps K m₂ = .ok p₂)
    (hl : ∀ pt s d, b.isLegalMove K (.piece pt s d none) = true → Move.piece pt s d none ∈ b.getLegalMoves K)
    (hking : ∀ s₁ s₂, (mem s₁ (b.pieces .king) = true ∧ mem s₁ (b.colors b.stm) = true) →
      (mem s₂ (b.pieces .king) = true ∧ mem s₂ (b.colors b.stm) = true) → s₁ = s₂)
    (hocc : ∀ s, mem s (b.colors b.stm) = true → mem s b.combined = true)
    (ht : sanText m₁ p₁ = sanText m₂ p₂) : m₁ = m₂ := by
  obtain ⟨l₁, -, -, -, a₁⟩ := moveProps_inv K b m₁ p₁ h₁
  obtain ⟨l₂, -, -, -, a₂⟩ := moveProps_inv K b m₂ p₂ h₂
  cases m₁ with
  | castle s₁ =>
    cases m₂ with
    | castle s₂ => rw [(sanText_castle_inj ht).1]
    | piece pt₂ src₂ dst₂ promo₂ => exact absurd ht (sanText_castle_ne_piece _ _ _ _ _ _ _)
  | piece pt₁ src₁ dst₁ promo₁ =>
    cases m₂ with
    | castle s₂ => exact absurd ht.symm (sanText_castle_ne_piece _ _ _ _ _ _ _)
    | piece pt₂ src₂ dst₂ promo₂ =>
      obtain ⟨rfl, rfl, rfl, hD, -, -⟩ := sanText_piece_inj ht
      suffices src₁ = src₂ by rw [this]
      rw [a₁, a₂] at hD
      obtain ⟨-, hs₁, hm₁, -⟩ := (isLegalMove_piece_iff b _ _ _ _).1 l₁
      obtain ⟨-, hs₂, hm₂, -⟩ := (isLegalMove_piece_iff b _ _ _ _).1 l₂
      rw [mem_and, Bool.and_eq_true] at hs₁ hs₂
      obtain ⟨ho₁, hp₁⟩ := hs₁
      obtain ⟨ho₂, hp₂⟩ := hs₂
      by_cases hpawn : pt₁ = .pawn
      · subst hpawn
        -- a pawn prints its origin file exactly when it leaves it, so the two pawns stand on one file: the destination's
        -- if neither prints, the printed one otherwise; `pawn_unique` does the rest
        refine pawn_unique b hocc src₁ src₂ dst₁ ?_ ho₁ ho₂ hm₁ hm₂
        rw [stdAmb_pawn, stdAmb_pawn] at hD
        -- when one pawn prints a file and the other nothing, `hD` equates a one-character text with the empty one: those two
        -- of the four cases close in the `simp`
        by_cases f1 : src₁.fl = dst₁.fl <;> by_cases f2 : src₂.fl = dst₁.fl <;>
          simp only [ne_eq, f1, f2, not_true_eq_false, not_false_eq_true, if_true, if_false, sanD, List.cons.injEq,
            and_true, reduceCtorEq] at hD
        · rw [f1, f2]
        · exact fileChar_fl_inj hD
      · by_cases hkg : pt₁ = .king
        · subst hkg; exact hking _ _ ⟨hp₁, ho₁⟩ ⟨hp₂, ho₂⟩
        · have e₁ := legal_nonpawn_promo K b _ _ _ _ hpawn l₁
          subst e₁
          apply Classical.byContradiction
          intro hne
          have r₂ : src₂ ∈ b.rivals K pt₁ src₁ dst₁ :=
            (mem_rivals K b _ _ _ _).2 ⟨fun e => hne e.symm, none, hl _ _ _ l₂⟩
          rw [stdAmb_other K b hpawn hkg] at hD
          exact hne (ambKind_sep _ _ _ _ r₂ hD)

/-- **C14 (uniqueness).**  On every valid board, equal SAN texts of legal moves mean equal moves (C03 supplies the `hl` of
`C14_injective_core`). -/
theorem C14_injective_valid (K : Keys) (b : Board) (hv : b.Valid K) (m₁ m₂ : Move) (p₁ p₂ : MoveProps)
    (h₁ : b.moveProps K m₁ = .ok p₁) (h₂ : b.moveProps K m₂ = .ok p₂) (ht : sanText m₁ p₁ = sanText m₂ p₂) : m₁ = m₂ :=
  C14_injective_core K b m₁ m₂ p₁ p₂ h₁ h₂
    (fun pt s d h => (hv.isLegalMove_iff _ (by intro _ _ _ e; cases e)).1 h)
    (king_unique_of_valid hv) (own_occ_of_cons hv.cons) ht

/-- `C14_injective_valid` for a board on which the legality test agrees with the generated list on ALL move values (`hl`; the
two differ on promotion to a pawn where a pawn can promote, see `Move.promotesToPawn`) -/
theorem C14_injective (b : Board) (hv : b.Valid K) (m₁ m₂ : Move) (p₁ p₂ : MoveProps)
    (h₁ : b.moveProps K m₁ = .ok p₁) (h₂ : b.moveProps K m₂ = .ok p₂)
    (hl : ∀ m, b.isLegalMove K m = true ↔ m ∈ b.getLegalMoves K)
    (ht : sanText m₁ p₁ = sanText m₂ p₂) : m₁ = m₂ :=
  C14_injective_valid K b hv m₁ m₂ p₁ p₂ h₁ h₂ ht

/-- the move promotes to a pawn (the one value on which the legality test and the generated list may differ: such a
move value cannot be constructed by `PieceMove::new`) -/
def Move.promotesToPawn : Move → Bool
  | .piece _ _ _ (some .pawn) => true
  | _ => false

/-- `C14_injective_valid` with `C03_iff` (which carries the side condition "no promotion to a pawn") as hypothesis `hl` -/
theorem C14_injective_C03 (b : Board) (hv : b.Valid K) (m₁ m₂ : Move) (p₁ p₂ : MoveProps)
    (h₁ : b.moveProps K m₁ = .ok p₁) (h₂ : b.moveProps K m₂ = .ok p₂)
    (hl : ∀ m, m.promotesToPawn = false → (b.isLegalMove K m = true ↔ m ∈ b.getLegalMoves K))
    (ht : sanText m₁ p₁ = sanText m₂ p₂) : m₁ = m₂ :=
  C14_injective_valid K b hv m₁ m₂ p₁ p₂ h₁ h₂ ht

theorem C14_distinct (b : Board) (hv : b.Valid K) (m₁ m₂ : Move) (p₁ p₂ : MoveProps)
    (h₁ : b.moveProps K m₁ = .ok p₁) (h₂ : b.moveProps K m₂ = .ok p₂)
    (hl : ∀ m, m.promotesToPawn = false → (b.isLegalMove K m = true ↔ m ∈ b.getLegalMoves K))
    (hne : m₁ ≠ m₂) : sanText m₁ p₁ ≠ sanText m₂ p₂ :=
  fun ht => hne (C14_injective_valid K b hv m₁ m₂ p₁ p₂ h₁ h₂ ht)

example : sanText (.piece .knight ⟨1, by decide⟩ ⟨11, by decide⟩ none) ⟨false, false, false, .extraFile⟩ = "Nbd2".toList := by decide
example : sanText (.piece .knight ⟨1, by decide⟩ ⟨11, by decide⟩ none) ⟨true, false, true, .extraSquare⟩ = "Nb1xd2+".toList := by decide
example : sanText (.piece .pawn ⟨52, by decide⟩ ⟨61, by decide⟩ (some .queen)) ⟨true, true, true, .extraFile⟩ = "exf8=Q#".toList := by decide
example : sanText (.castle .queen) ⟨true, false, false, .neither⟩ = "O-O-O+".toList := by decide

/-- the three hypotheses of `C14_injective_core` are jointly satisfiable (trivially, on the empty board;
on every valid board the last two hold by `king_unique_of_valid`, `own_occ_of_cons`) -/
example :
    (∀ pt s d, Board.new.isLegalMove K (.piece pt s d none) = true → Move.piece pt s d none ∈ Board.new.getLegalMoves K) ∧
    (∀ s₁ s₂ : Sq, (mem s₁ (Board.new.pieces .king) = true ∧ mem s₁ (Board.new.colors Board.new.stm) = true) →
      (mem s₂ (Board.new.pieces .king) = true ∧ mem s₂ (Board.new.colors Board.new.stm) = true) → s₁ = s₂) ∧
    (∀ s : Sq, mem s (Board.new.colors Board.new.stm) = true → mem s Board.new.combined = true) := by
  refine ⟨?_, ?_, ?_⟩
  · intro pt s d h
    have := ((isLegalMove_piece_iff _ _ _ _ _).1 h).2.1
    simp [Board.new] at this
  · intro s₁ s₂ h; simp [Board.new] at h
  · intro s h; simp [Board.new] at h

end Chess

import Chess.Lemmas.FlipGeo
import Chess.Lemmas.LegalMoves
/-! Invariance of the declarative rules under a board symmetry `S : Sym` (property C19), proved once for every `S`.  Castling
depends on the instance and is left to `Props/C19`. -/
namespace Chess
open Spec

namespace Sym
variable (S : Sym)

def bd (b : Sq → Option Piece) : Sq → Option Piece := fun s => (b (S.σ s)).map (mapPiece S.κ)
def pos (p : Pos) : Pos :=
  { board := S.bd p.board, stm := S.κ p.stm, rights := fun c => p.rights (S.κ c), ep := p.ep.map S.σ,
    half := p.half, full := p.full }
/-- the castling side is kept, also under the file mirror (which is used only without castling rights) -/
def mv : Move → Move
  | .piece pt src dst promo => .piece pt (S.σ src) (S.σ dst) promo
  | .castle s => .castle s

theorem σ_inj {a b : Sq} : S.σ a = S.σ b ↔ a = b :=
  ⟨fun h => by rw [← S.σσ a, h, S.σσ], fun h => h ▸ rfl⟩
theorem σ_eq_iff {a b : Sq} : S.σ a = b ↔ a = S.σ b :=
  ⟨fun h => by rw [← h, S.σσ], fun h => by rw [h, S.σσ]⟩
theorem κ_inj {a b : Color} : S.κ a = S.κ b ↔ a = b :=
  ⟨fun h => by rw [← S.κκ a, h, S.κκ], fun h => h ▸ rfl⟩
theorem κ_eq_iff {a b : Color} : S.κ a = b ↔ a = S.κ b :=
  ⟨fun h => by rw [← h, S.κκ], fun h => by rw [h, S.κκ]⟩
theorem σ_beq (a b : Sq) : (S.σ a == S.σ b) = (a == b) := by
  rw [Bool.eq_iff_iff]; simp [S.σ_inj]
theorem σ_bne (a b : Sq) : (S.σ a != S.σ b) = (a != b) := by
  simp only [bne, S.σ_beq]
theorem κ_beq (a b : Color) : (S.κ a == S.κ b) = (a == b) := by
  rw [Bool.eq_iff_iff]; simp [S.κ_inj]
theorem κ_bne (a b : Color) : (S.κ a != S.κ b) = (a != b) := by
  simp only [bne, S.κ_beq]
theorem both_κ (f : Color → Bool) : (f (S.κ .white) && f (S.κ .black)) = (f .white && f .black) := by
  cases h : S.κ .white <;> cases h' : S.κ .black
  · exact absurd (S.κ_inj.mp (h.trans h'.symm)) (by decide)
  · rfl
  · exact Bool.and_comm _ _
  · exact absurd (S.κ_inj.mp (h.trans h'.symm)) (by decide)
theorem mv_mv (m : Move) : S.mv (S.mv m) = m := by
  cases m <;> simp [mv, S.σσ]

theorem mapPiece_inj {q r : Piece} : mapPiece S.κ q = mapPiece S.κ r ↔ q = r := by
  cases q; cases r; simp [mapPiece, S.κ_inj]
theorem mapPiece_mapPiece (q : Piece) : mapPiece S.κ (mapPiece S.κ q) = q := by
  cases q; simp [mapPiece, S.κκ]

theorem map_σ_perm : (allSq.map S.σ).Perm allSq := by
  rw [List.perm_ext_iff_of_nodup]
  · intro a; simp only [List.mem_map, allSq, List.mem_finRange, true_and, iff_true]
    exact ⟨S.σ a, S.σσ a⟩
  · exact List.Pairwise.map _ (fun a b h h' => h (S.σ_inj.mp h')) (List.nodup_finRange 64)
  · exact List.nodup_finRange 64
theorem all_σ (f : Sq → Bool) : allSq.all (fun a => f (S.σ a)) = allSq.all f :=
  List.all_map.symm.trans S.map_σ_perm.all_eq
theorem any_σ (f : Sq → Bool) : allSq.any (fun a => f (S.σ a)) = allSq.any f :=
  List.any_map.symm.trans S.map_σ_perm.any_eq

theorem bd_σ (b : Sq → Option Piece) (s : Sq) : S.bd b (S.σ s) = (b s).map (mapPiece S.κ) := by
  simp [bd, S.σσ]
theorem bd_bd (b : Sq → Option Piece) : S.bd (S.bd b) = b := by
  funext s; simp only [bd, S.σσ]; cases b s <;> simp [S.mapPiece_mapPiece]
theorem pos_pos (p : Pos) : S.pos (S.pos p) = p := by
  cases p with | mk b stm r ep h f =>
  simp only [pos, S.bd_bd, S.κκ]
  congr 1
  cases ep <;> simp [S.σσ]

theorem map_beq_some (o : Option Piece) (pt : PT) (c : Color) :
    (o.map (mapPiece S.κ) == some ⟨pt, S.κ c⟩) = (o == some ⟨pt, c⟩) := by
  rw [Bool.eq_iff_iff]
  cases o with
  | none => simp
  | some q => cases q; simp [mapPiece, S.κ_inj]
theorem bd_eq_some_iff (b : Sq → Option Piece) (s : Sq) (pt : PT) (c : Color) :
    S.bd b s = some ⟨pt, S.κ c⟩ ↔ b (S.σ s) = some ⟨pt, c⟩ := by
  have := S.map_beq_some (b (S.σ s)) pt c
  rw [Bool.eq_iff_iff] at this
  simpa [bd] using this

theorem clearBetween_sym (b : Sq → Option Piece) (a t : Sq) :
    clearBetween (S.bd b) (S.σ a) (S.σ t) = clearBetween b a t := by
  unfold clearBetween
  rw [← S.all_σ]
  congr 1; funext c
  rw [S.sb, S.bd_σ]; simp

theorem attacks_sym (b : Sq → Option Piece) (a t : Sq) :
    attacks (S.bd b) (S.σ a) (S.σ t) = attacks b a t := by
  unfold attacks
  rw [S.bd_σ]
  cases b a with
  | none => rfl
  | some q =>
    obtain ⟨pt, c⟩ := q
    cases pt <;>
      simp only [Option.map, mapPiece, S.dr_abs, S.df_abs, S.orth, S.diag, S.clearBetween_sym, S.dr_fwd, S.σ_bne]

theorem isColor_sym (b : Sq → Option Piece) (c : Color) (s : Sq) :
    isColor (S.bd b) (S.κ c) (S.σ s) = isColor b c s := by
  unfold isColor; rw [S.bd_σ]
  cases b s <;> simp [mapPiece, S.κ_beq]

theorem attackedBy_sym (b : Sq → Option Piece) (c : Color) (t : Sq) :
    attackedBy (S.bd b) (S.κ c) (S.σ t) = attackedBy b c t := by
  unfold attackedBy
  rw [← S.any_σ]
  congr 1; funext a
  rw [S.attacks_sym]
  congr 1
  exact S.isColor_sym b c a

def KingUniq (b : Sq → Option Piece) (c : Color) : Prop :=
  ∀ s s', b s = some ⟨.king, c⟩ → b s' = some ⟨.king, c⟩ → s = s'

theorem kingUniq_of_one {b : Sq → Option Piece} {c : Color} (h : countPiece b ⟨.king, c⟩ = 1) : KingUniq b c := by
  obtain ⟨k, -, hk⟩ := (countPiece_eq_one_iff b _).mp h
  intro s s' hs hs'
  rw [hk s hs, hk s' hs']

theorem kingUniq_sym {b : Sq → Option Piece} {c : Color} (hu : KingUniq b c) : KingUniq (S.bd b) (S.κ c) := by
  intro s s' h h'
  rw [S.bd_eq_some_iff] at h h'
  exact S.σ_inj.mp (hu _ _ h h')

theorem kingSq?_sym {b : Sq → Option Piece} {c : Color} (hu : KingUniq b c) :
    kingSq? (S.bd b) (S.κ c) = (kingSq? b c).map S.σ := by
  cases h : kingSq? b c with
  | none =>
    cases h' : kingSq? (S.bd b) (S.κ c) with
    | none => rfl
    | some k' =>
      have := kingSq?_some h'
      rw [S.bd_eq_some_iff] at this
      exact absurd this (kingSq?_none h _)
  | some k =>
    have hk : S.bd b (S.σ k) = some ⟨.king, S.κ c⟩ := by rw [S.bd_eq_some_iff, S.σσ]; exact kingSq?_some h
    exact kingSq?_of_unique hk fun s hs => S.kingUniq_sym hu _ _ hs hk

theorem inCheck_sym {b : Sq → Option Piece} {c : Color} (hu : KingUniq b c) :
    inCheck (S.bd b) (S.κ c) = inCheck b c := by
  unfold inCheck
  rw [S.kingSq?_sym hu]
  cases kingSq? b c with
  | none => rfl
  | some k => simp only [Option.map]; rw [← S.κ_other, S.attackedBy_sym]

theorem upd_sym (b : Sq → Option Piece) (s : Sq) (v : Option Piece) :
    S.bd (upd b s v) = upd (S.bd b) (S.σ s) (v.map (mapPiece S.κ)) := by
  funext x
  simp only [bd, upd, S.σ_eq_iff]
  split <;> rfl

theorem ep_beq (e : Option Sq) (d : Sq) : (e.map S.σ == some (S.σ d)) = (e == some d) := by
  rw [Bool.eq_iff_iff]; cases e <;> simp [S.σ_inj]

theorem applyBoard_piece_sym (p : Pos) (pt : PT) (src dst : Sq) (promo : Option PT) :
    applyBoard (S.pos p) (.piece pt (S.σ src) (S.σ dst) promo) = S.bd (applyBoard p (.piece pt src dst promo)) := by
  simp only [applyBoard, pos, S.ep_beq, S.mk_back]
  split
  · cases mkSq? (dst.rank - fwd p.stm) dst.file <;> simp [S.upd_sym, mapPiece]
  · simp [S.upd_sym, mapPiece]

theorem pseudo_sym (p : Pos) (pt : PT) (src dst : Sq) (promo : Option PT) :
    pseudo (S.pos p) pt (S.σ src) (S.σ dst) promo = pseudo p pt src dst promo := by
  unfold pseudo
  simp only [pos, S.bd_σ, S.map_beq_some, S.ep_beq, S.df_zero, S.dr_fwd, S.dr_fwd2, S.df_abs, S.pawnRk, S.lastRk,
    S.mk_fwd, S.attacks_sym, Option.isNone_map, Option.isSome_map]
  -- the two sides now differ only in two `match`es on a mapped option: the colour of the man on `dst` (first bullet) and,
  -- in the pawn arm, the emptiness of the square in front of `src` (second bullet)
  congr 1
  · congr 1
    cases p.board dst <;> simp [mapPiece, S.κ_bne]
  · cases pt <;> try rfl
    dsimp only
    cases mkSq? (src.rank + fwd p.stm) src.file <;> simp [S.bd_σ]

theorem applyBoard_piece_uniq {p : Pos} {pt : PT} {src dst : Sq} {promo : Option PT}
    (hu : KingUniq p.board p.stm) (hp : pseudo p pt src dst promo = true) :
    KingUniq (applyBoard p (.piece pt src dst promo)) p.stm := by
  intro s s' h h'
  -- a king arriving on `dst` came from `src`, so no other square holds one
  have key : ∀ x, (⟨promo.getD pt, p.stm⟩ : Piece) = ⟨.king, p.stm⟩ → x ≠ src → p.board x = some ⟨.king, p.stm⟩ → False := by
    intro x hk hx hb
    have := (pseudo_getD_king hp).1 (Piece.mk.inj hk).1
    subst this
    exact hx (hu _ _ hb (pseudo_src hp))
  rcases applyBoard_piece_eq_some.1 h with ⟨h1, h2⟩ | ⟨-, h2, -, h3⟩ <;>
  rcases applyBoard_piece_eq_some.1 h' with ⟨h1', h2'⟩ | ⟨-, h2', -, h3'⟩
  · rw [h1, h1']
  · exact (key _ h2 h2' h3').elim
  · exact (key _ h2' h2 h3).elim
  · exact hu _ _ h3 h3'

/-- `hu`: `inCheck` looks at the first king found, so it commutes with `σ` only when that king is the only one -/
theorem legal_piece_sym (p : Pos) (hu : KingUniq p.board p.stm) (pt : PT) (src dst : Sq) (promo : Option PT) :
    legal (S.pos p) (.piece pt (S.σ src) (S.σ dst) promo) = legal p (.piece pt src dst promo) := by
  simp only [legal]
  rw [S.pseudo_sym, S.applyBoard_piece_sym]
  cases hp : pseudo p pt src dst promo with
  | false => simp only [Bool.false_and]
  | true =>
    show (true && !inCheck (S.bd _) (S.κ p.stm)) = _
    rw [S.inCheck_sym (applyBoard_piece_uniq hu hp)]

theorem mem_checkers_sym (p : Pos) (hu : KingUniq p.board p.stm) (x : Sq) :
    S.σ x ∈ checkers (S.pos p) ↔ x ∈ checkers p := by
  unfold checkers
  -- `show` only unfolds `S.pos` in the scrutinee, for `kingSq?_sym` to rewrite it
  show S.σ x ∈ (match kingSq? (S.bd p.board) (S.κ p.stm) with | some k => _ | none => _) ↔ _
  rw [S.kingSq?_sym hu]
  cases kingSq? p.board p.stm with
  | none => simp
  | some k =>
    simp only [Option.map, List.mem_filter, allSq, List.mem_finRange, true_and, pos]
    rw [← S.κ_other, S.isColor_sym, S.attacks_sym]

theorem sliderLine_sym (b : Sq → Option Piece) (a k : Sq) :
    sliderLine (S.bd b) (S.σ a) (S.σ k) = sliderLine b a k := by
  unfold sliderLine
  rw [S.bd_σ]
  cases b a with
  | none => rfl
  | some q =>
    obtain ⟨pt, c⟩ := q
    cases pt <;> simp only [Option.map, mapPiece, S.orth, S.diag]

theorem mem_pinnedSet_sym (p : Pos) (hu : KingUniq p.board p.stm) (x : Sq) :
    S.σ x ∈ pinnedSet (S.pos p) ↔ x ∈ pinnedSet p := by
  unfold pinnedSet
  -- as in `mem_checkers_sym`
  show S.σ x ∈ (match kingSq? (S.bd p.board) (S.κ p.stm) with | some k => _ | none => _) ↔ _
  rw [S.kingSq?_sym hu]
  cases kingSq? p.board p.stm with
  | none => simp
  | some k =>
    simp only [Option.map, List.mem_filter, allSq, List.mem_finRange, true_and, pos]
    rw [S.isColor_sym]
    -- the attacker `a` and the square `c` between range over all squares: re-index both searches by `σ`, then every
    -- conjunct is one of the laws (the `congr`s go under the `any` over `a`, then under the `all` over `c`)
    rw [show (List.finRange 64) = allSq from rfl, ← S.any_σ]
    apply Iff.of_eq
    congr 2
    congr 1
    funext a
    rw [← S.κ_other, S.isColor_sym, S.sliderLine_sym, S.sb, ← S.all_σ]
    congr 2
    funext c
    rw [S.sb, S.σ_beq, S.bd_σ]
    simp

theorem menOf_sym (b : Sq → Option Piece) (c : Color) :
    (menOf (S.bd b) (S.κ c)).Perm ((menOf b c).map (mapPiece S.κ)) := by
  rw [menOf_eq, menOf_eq]
  have h1 : allSq.filterMap (manAt (S.bd b) (S.κ c))
      = ((allSq.map S.σ).filterMap (manAt b c)).map (mapPiece S.κ) := by
    rw [List.filterMap_map, List.map_filterMap]
    congr 1; funext s
    simp only [manAt, bd, Function.comp]
    cases b (S.σ s) with
    | none => rfl
    | some q =>
      simp only [Option.map, mapPiece, S.κ_beq]
      split <;> rfl
  rw [h1]
  exact (S.map_σ_perm.filterMap _).map _

theorem cannotMate_sym (b : Sq → Option Piece) (c : Color) :
    cannotMate (S.bd b) (S.κ c) = cannotMate b c := by
  have h := (S.menOf_sym b c).filter (fun q => q.pt != .king)
  rw [cannotMate_eq, cannotMate_eq, h.length_eq, h.any_eq, List.filter_map, List.length_map, List.any_map]
  rfl

theorem isCapture_sym (p : Pos) (m : Move) : isCapture (S.pos p) (S.mv m) = isCapture p m := by
  cases m with
  | castle s => rfl
  | piece pt src dst promo =>
    simp only [mv, isCapture, pos, S.bd_σ, S.ep_beq]
    congr 1
    cases p.board dst <;> simp [mapPiece, S.κ_bne]

theorem epAfter_sym (m : Move) : epAfter (S.mv m) = (epAfter m).map S.σ := by
  cases m with
  | castle s => rfl
  | piece pt src dst promo =>
    cases pt <;> try rfl
    simp only [mv, epAfter, S.dr_abs]
    by_cases h : ((dst.rank - src.rank).natAbs == 2) = true
    · rw [if_pos h, if_pos h]; exact S.mk_mid _ _ (by simpa using h)
    · rw [if_neg h, if_neg h]; rfl

/-- The successor commutes with the symmetry, given that the placement does (castling is the caller's business) and the
corner tests do (true for the rank mirror; vacuous when there are no rights); the move number aside, which counts
Black's moves. -/
theorem apply_sym (p : Pos) (m : Move) (hb : applyBoard (S.pos p) (S.mv m) = S.bd (applyBoard p m))
    (hd : ∀ (c : Color) (s : Sq),
      dropRights (p.rights c) (S.σ s == hsqS (S.κ c) 7) (S.σ s == hsqS (S.κ c) 0) =
      dropRights (p.rights c) (s == hsqS c 7) (s == hsqS c 0)) :
    apply (S.pos p) (S.mv m) =
      { S.pos (apply p m) with full := if S.κ p.stm = .black then p.full + 1 else p.full } := by
  have ho : ∀ c, ownRights (p.rights c) (S.κ c) (S.mv m) = ownRights (p.rights c) c m := fun c => by
    cases m with
    | castle s => rfl
    | piece pt src dst promo => cases pt <;> first | rfl | exact hd _ _
  have hp : ∀ c, oppRights (p.rights c) (S.κ c) (S.mv m) = oppRights (p.rights c) c m := fun c => by
    cases m with
    | castle s => rfl
    | piece pt src dst promo => exact hd _ _
  rw [apply_eq, apply_eq]
  refine Pos.ext' hb (S.κ_other _).symm (funext fun x => ?rights) (S.epAfter_sym m) ?half rfl
  case rights =>
    dsimp only [pos]
    rw [← S.κ_other, S.κκ, S.κκ, ho, hp]
    -- the test is `x = κ stm` on the left and `κ x = stm` on the right
    exact ite_congr (propext S.κ_eq_iff.symm) (fun _ => rfl) (fun _ => rfl)
  case half =>
    rw [show isCapture _ (S.mv m) = _ from S.isCapture_sym p m]
    cases m <;> rfl

def mapStatus : Status → Status
  | .checkmated c => .checkmated (S.κ c)
  | s => s

theorem legalMoves_isEmpty_sym (p : Pos) (hl : ∀ m, legal (S.pos p) (S.mv m) = legal p m) :
    (legalMoves (S.pos p)).isEmpty = (legalMoves p).isEmpty := by
  rw [Bool.eq_iff_iff, legalMoves_isEmpty_iff, legalMoves_isEmpty_iff]
  constructor
  · intro h m; rw [← hl]; exact h _
  · intro h m; rw [← S.mv_mv m, hl]; exact h _

theorem status_sym (p : Pos) (hu : KingUniq p.board p.stm) (hl : ∀ m, legal (S.pos p) (S.mv m) = legal p m) :
    status (S.pos p) = S.mapStatus (status p) := by
  unfold status
  rw [S.legalMoves_isEmpty_sym p hl]
  have h1 : inCheck (S.pos p).board (S.pos p).stm = inCheck p.board p.stm := S.inCheck_sym hu
  have h2 : (cannotMate (S.pos p).board .white && cannotMate (S.pos p).board .black) =
      (cannotMate p.board .white && cannotMate p.board .black) := by
    rw [← S.both_κ (cannotMate (S.pos p).board)]
    simp only [pos, S.cannotMate_sym]
  have h3 : (S.pos p).half = p.half := rfl
  rw [h1, h2, h3]
  -- the four tests agree, and of the five answers only `checkmated` carries a colour
  simp only [apply_ite S.mapStatus]
  rfl

theorem countPiece_sym (b : Sq → Option Piece) (pt : PT) (c : Color) :
    countPiece (S.bd b) ⟨pt, S.κ c⟩ = countPiece b ⟨pt, c⟩ := by
  unfold countPiece
  rw [← S.map_σ_perm.countP_eq, List.countP_map]
  congr 1; funext s
  simp only [Function.comp, bd, S.σσ]
  rw [S.map_beq_some]

theorem epOk_sym (p : Pos)
    (hrk : ∀ (s : Sq) (c : Color), ((S.σ s).rank == (if S.κ c == .white then 5 else 2)) = (s.rank == (if c == .white then 5 else 2))) :
    epOk (S.pos p) = epOk p := by
  unfold epOk
  cases he : p.ep with
  | none => simp [pos, he]
  | some e =>
    simp only [pos, he, Option.map_some, hrk, ← S.κ_other, S.mk_fwd, S.mk_back, S.bd_σ, Option.isNone_map]
    congr 1
    · congr 1
      cases mkSq? (e.rank + fwd p.stm.other) e.file with
      | none => rfl
      | some v => simp only [Option.map_some, S.bd_σ, S.map_beq_some]
    · cases mkSq? (e.rank - fwd p.stm.other) e.file with
      | none => rfl
      | some v => simp only [Option.map_some, S.bd_σ, Option.isNone_map]

/-- `hrk` (the en-passant rank) holds for both `symV` and `symH`; `hro` (castling rights) is where the instances differ -/
theorem validPos_sym (p : Pos)
    (hrk : ∀ (s : Sq) (c : Color),
      ((S.σ s).rank == (if S.κ c == .white then 5 else 2)) = (s.rank == (if c == .white then 5 else 2)))
    (hro : ∀ c, rightsOk (S.pos p) (S.κ c) = rightsOk p c) : ValidPos (S.pos p) = ValidPos p := by
  have hκ (P : Color → Prop) : (∀ c, P c) ↔ ∀ c, P (S.κ c) := ⟨fun h c => h _, fun h c => S.κκ c ▸ h (S.κ c)⟩
  rw [Bool.eq_iff_iff, validPos_iff, validPos_iff, S.epOk_sym p hrk, hκ fun c => countPiece (S.pos p).board ⟨.king, c⟩ = 1,
    hκ fun c => rightsOk (S.pos p) c = true]
  simp only [show (S.pos p).board = S.bd p.board from rfl, S.countPiece_sym, hro]
  -- `inCheck` commutes only when the king in question is unique, which the first clause provides
  refine and_congr_right fun hk => and_congr_left' ?_
  rw [show (S.pos p).stm.other = S.κ p.stm.other from (S.κ_other _).symm, S.inCheck_sym (kingUniq_of_one (hk _))]

end Sym

end Chess

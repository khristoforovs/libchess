import Chess.Lemmas.MakeMove
import Chess.Model.Zobrist
/-! Zobrist hashing; everything is for an ARBITRARY key table `K`. -/
namespace Chess
open Board

section XorFold
variable {α : Type}

theorem foldl_xor_init (g : α → BB) (l : List α) (a : BB) :
    l.foldl (fun h s => h ^^^ g s) a = a ^^^ l.foldl (fun h s => h ^^^ g s) 0#64 := by
  induction l generalizing a with
  | nil => simp
  | cons x xs ih =>
    simp only [List.foldl_cons]
    rw [ih (a ^^^ g x), ih (0#64 ^^^ g x)]
    simp [BitVec.xor_assoc]

theorem foldl_xor_cons (g : α → BB) (x : α) (l : List α) :
    (x :: l).foldl (fun h s => h ^^^ g s) 0#64 = g x ^^^ l.foldl (fun h s => h ^^^ g s) 0#64 := by
  simp only [List.foldl_cons]
  rw [foldl_xor_init]; simp

theorem foldl_xor_update (g g' : α → BB) (s : α) (l : List α) (hnd : l.Nodup) (hs : s ∈ l)
    (h : ∀ x, x ≠ s → g' x = g x) :
    l.foldl (fun h s => h ^^^ g' s) 0#64 = l.foldl (fun h s => h ^^^ g s) 0#64 ^^^ g s ^^^ g' s := by
  induction l with
  | nil => simp at hs
  | cons x xs ih =>
    rw [foldl_xor_cons, foldl_xor_cons]
    rw [List.nodup_cons] at hnd
    by_cases hx : x = s
    · subst hx
      rw [foldl_congr_mem (G := fun a y => a ^^^ g y) xs (fun y hy a => by rw [h y (fun e => hnd.1 (e ▸ hy))])]
      -- here and below `grind` only rearranges XORs (associative, commutative, `x ^^^ x = 0`)
      grind
    · rw [ih hnd.2 ((List.mem_cons.1 hs).resolve_left (Ne.symm hx)), h x hx]
      grind

theorem foldl_xor_filter (g : α → BB) (p : α → Bool) (l : List α) (hz : ∀ x ∈ l, p x = false → g x = 0#64) (a : BB) :
    (l.filter p).foldl (fun h s => h ^^^ g s) a = l.foldl (fun h s => h ^^^ g s) a := by
  rw [List.foldl_filter]
  refine foldl_congr_mem l (fun x hx a => ?_) a
  cases hp : p x
  · simp [hz x hx hp]
  · simp

end XorFold

variable (K : Keys)

def placeHash (f : Sq → Option Piece) : BB := allSq.foldl (fun h s => h ^^^ K.occ (f s) s) 0#64

def normHash (f : Sq → Option Piece) (c : Color) (r : Color → CR) (e : Option Sq) : BB :=
  placeHash K f ^^^ K.stmKey c ^^^ K.castle .white (r .white) ^^^ K.castle .black (r .black) ^^^ K.epKey e

theorem placeHash_upd (f : Sq → Option Piece) (s : Sq) (v : Option Piece) :
    placeHash K (Spec.upd f s v) = placeHash K f ^^^ K.occ (f s) s ^^^ K.occ v s := by
  unfold placeHash
  have := foldl_xor_update (fun x => K.occ (f x) x) (fun x => K.occ (Spec.upd f s v x) x) s allSq
    (List.nodup_finRange 64) (List.mem_finRange s) (fun x hx => by simp [Spec.upd, hx])
  simpa [Spec.upd] using this

/-! The normal form is an XOR of independent components: changing one component XORs its old key out and its new key
in.  The incremental setters (below) and the one-feature separation theorems (C07) are both read off these laws, one per
component. -/

theorem normHash_upd (f : Sq → Option Piece) (s : Sq) (v : Option Piece) (c r e) :
    normHash K (Spec.upd f s v) c r e = normHash K f c r e ^^^ K.occ (f s) s ^^^ K.occ v s := by
  unfold normHash; rw [placeHash_upd]; grind

theorem normHash_stm (f : Sq → Option Piece) (c c' : Color) (r e) :
    normHash K f c' r e = normHash K f c r e ^^^ K.stmKey c ^^^ K.stmKey c' := by
  unfold normHash; grind

theorem normHash_rights (f : Sq → Option Piece) (st : Color) (r r' : Color → CR) (e) (c : Color)
    (ho : r' c.other = r c.other) :
    normHash K f st r' e = normHash K f st r e ^^^ K.castle c (r c) ^^^ K.castle c (r' c) := by
  unfold normHash
  cases c <;> simp only [Color.other] at ho <;> rw [ho] <;> grind

theorem normHash_ep (f : Sq → Option Piece) (c : Color) (r) (e e' : Option Sq) :
    normHash K f c r e' = normHash K f c r e ^^^ K.epKey e ^^^ K.epKey e' := by
  unfold normHash; grind

theorem normHash_ep_congr (f : Sq → Option Piece) (c : Color) (r) {e e' : Option Sq}
    (h : e.map epFile = e'.map epFile) : normHash K f c r e = normHash K f c r e' := by
  unfold normHash Keys.epKey
  cases e <;> cases e' <;> simp_all

theorem specHash_eq_normHash (p : Spec.Pos) :
    K.specHash p = normHash K p.board p.stm (fun c => CR.ofBits (p.rights c).k (p.rights c).q) p.ep := by
  unfold Keys.specHash normHash placeHash Keys.stmKey Keys.epKey
  rw [foldl_congr_mem (G := fun h s => h ^^^ K.occ (p.board s) s) allSq
    (fun s _ h => by cases p.board s <;> simp [Keys.occ])]
  cases p.ep <;> by_cases hc : p.stm = .black <;> simp [hc]

theorem Rep.calcHash {b : Board} {f} (h : Rep b f) : b.calcHash K = normHash K f b.stm b.rights b.ep := by
  unfold Board.calcHash normHash placeHash
  simp only []  -- inlines the `let`s of `calcHash`
  rw [foldl_congr_mem (G := fun x sq => x ^^^ K.occ (f sq) sq) _ (fun sq _ x => by
    rw [h.getPieceTypeOn, h.getPieceColorOn]; cases f sq <;> simp [Keys.occ])]
  -- the occupied squares are `allSq` filtered by `combined`; the empty ones contribute `0`, so the filter can go;
  -- then the side-to-move key the fold started from is pulled out
  rw [toList_spec, foldl_xor_filter _ _ _ (fun x _ hx => by
    rw [h.cmb] at hx; cases hf : f x <;> simp_all [Keys.occ]), foldl_xor_init]
  cases b.ep <;> simp only [Keys.stmKey, Keys.epKey] <;> grind

theorem calcHash_spec {b : Board} (hc : b.Cons) : b.calcHash K = K.specHash b.absPos := by
  rw [Rep.calcHash K hc, specHash_eq_normHash]
  simp [Board.absPos, CR.toRights, CR.ofBits_has]

/-- `HashOk` relative to a named placement `f`, with the from-scratch hash in normal form (`hashOk_iff`): the form in which
the primitives are followed, since each changes `f` by a point update -/
structure Inv (b : Board) (f : Sq → Option Piece) : Prop where
  rep : Rep b f
  hash : b.hash = normHash K f b.stm b.rights b.ep

def Board.HashOk (b : Board) : Prop := b.Cons ∧ b.hash = b.calcHash K

theorem Inv.hashOk {b : Board} {f} (h : Inv K b f) : b.HashOk K :=
  ⟨h.rep.cons, by rw [h.rep.calcHash K]; exact h.hash⟩

theorem Board.HashOk.inv {b : Board} (h : b.HashOk K) : Inv K b b.abs :=
  ⟨h.1, by rw [h.2]; exact Rep.calcHash K h.1⟩

theorem hashOk_iff (b : Board) : b.HashOk K ↔ ∃ f, Inv K b f :=
  ⟨fun h => ⟨_, Board.HashOk.inv K h⟩, fun ⟨_, h⟩ => h.hashOk K⟩

namespace C07
/-- `b'` agrees with `b` on the stored hash and on every field `calcHash` reads -/
def HashFrame (b b' : Board) : Prop :=
  b'.hash = b.hash ∧ b'.pieces = b.pieces ∧ b'.colors = b.colors ∧ b'.combined = b.combined ∧
  b'.stm = b.stm ∧ b'.rights = b.rights ∧ b'.ep = b.ep

theorem updateMoveNumber_frame (b : Board) : HashFrame b b.updateMoveNumber := by
  rw [updateMoveNumber_eq]; exact ⟨rfl, rfl, rfl, rfl, rfl, rfl, rfl⟩

theorem updateMovesSinceCapture_frame (b : Board) (m : Move) (c : Bool) :
    HashFrame b (b.updateMovesSinceCapture m c) := by
  rw [updateMovesSinceCapture_eq]; exact ⟨rfl, rfl, rfl, rfl, rfl, rfl, rfl⟩

theorem updatePinsAndChecks_frame (b : Board) : HashFrame b b.updatePinsAndChecks := ⟨rfl, rfl, rfl, rfl, rfl, rfl, rfl⟩

theorem updateTerminalStatus_frame (b : Board) : HashFrame b (b.updateTerminalStatus K) := ⟨rfl, rfl, rfl, rfl, rfl, rfl, rfl⟩
end C07

theorem Inv.frame {b b' : Board} {f} (h : Inv K b f) (hf : C07.HashFrame b b') : Inv K b' f := by
  obtain ⟨hh, hp, hcl, hcm, hs, hr, he⟩ := hf
  exact ⟨h.rep.of_masks hp hcl hcm, by rw [hh, hs, hr, he]; exact h.hash⟩

theorem Inv.clearSquare {b : Board} {f} (h : Inv K b f) (s : Sq) : Inv K (b.clearSquare K s) (Spec.upd f s none) := by
  obtain ⟨hs, hr, he, _, _⟩ := clearSquare_state K b s
  refine ⟨h.rep.clearSquare K s, ?_⟩
  rw [h.rep.clearSquare_hash K s, normHash_upd, h.hash, hs, hr, he]
  simp [Keys.occ]

theorem Inv.putPiece {b : Board} {f} (h : Inv K b f) (p : Piece) (s : Sq) :
    Inv K (b.putPiece K p s) (Spec.upd f s (some p)) := by
  obtain ⟨hs, hr, he, _, _⟩ := putPiece_state K b p s
  refine ⟨h.rep.putPiece K p s, ?_⟩
  rw [h.rep.putPiece_hash K p s, normHash_upd, h.hash, hs, hr, he]
  simp [Keys.occ]

theorem Inv.setSideToMove {b : Board} {f} (h : Inv K b f) (c : Color) : Inv K (b.setSideToMove K c) f := by
  rw [setSideToMove_eq]
  refine ⟨⟨h.rep.pcs, h.rep.cls, h.rep.cmb⟩, ?_⟩
  show b.hash ^^^ K.stmKey b.stm ^^^ K.stmKey c = normHash K f c b.rights b.ep
  rw [h.hash, ← normHash_stm]

theorem Inv.setCastlingRights {b : Board} {f} (h : Inv K b f) (c : Color) (r : CR) :
    Inv K (b.setCastlingRights K c r) f := by
  rw [setCastlingRights_eq]
  refine ⟨⟨h.rep.pcs, h.rep.cls, h.rep.cmb⟩, ?_⟩
  show b.hash ^^^ K.castle c (b.rights c) ^^^ K.castle c r = normHash K f b.stm (setFn b.rights c r) b.ep
  rw [h.hash, normHash_rights K f b.stm b.rights _ b.ep c (setFn_other _ _ _ _ (Color.other_ne c)), setFn_same]

theorem Inv.setEnPassant {b : Board} {f} (h : Inv K b f) (e : Option Sq) : Inv K (b.setEnPassant K e) f := by
  rw [setEnPassant_eq]
  refine ⟨⟨h.rep.pcs, h.rep.cls, h.rep.cmb⟩, ?_⟩
  show b.hash ^^^ K.epKey b.ep ^^^ K.epKey e = normHash K f b.stm b.rights e
  rw [h.hash, ← normHash_ep]

theorem Inv.updateCastlingRights {b : Board} {f} (h : Inv K b f) (m : Move) :
    Inv K (b.updateCastlingRights K m) f := by
  rw [updateCastlingRights_eq]; exact (h.setCastlingRights K _ _).setCastlingRights K _ _

theorem Inv.updateEnPassant {b : Board} {f} (h : Inv K b f) (m : Move) : Inv K (b.updateEnPassant K m) f := by
  rw [updateEnPassant_eq]; exact h.setEnPassant K _

theorem Inv.finish {b : Board} {f} (h : Inv K b f) (m : Move) (ic : Bool) : Inv K (b.finish K m ic) f :=
  (((((((h.frame K (C07.updateMoveNumber_frame _)).frame K (C07.updateMovesSinceCapture_frame _ m ic)).updateCastlingRights K m
    ).setSideToMove K _).updateEnPassant K m).frame K (C07.updatePinsAndChecks_frame _)).frame K
      (C07.updateTerminalStatus_frame K _))

/-! the placement stage does nothing when it finds its source square empty, so its lemmas are stated for `HashOk`, which
does not name the placement encoded afterwards -/

theorem Board.HashOk.movePiece {b : Board} (h : b.HashOk K) (pt : PT) (src dst : Sq) (promo : Option PT) :
    (b.movePiece K pt src dst promo).HashOk K := by
  unfold Board.movePiece
  split
  · exact h
  · exact (((h.inv K).clearSquare K src).putPiece K _ dst).hashOk K

theorem Board.HashOk.clearIfEp {b : Board} (h : b.HashOk K) (pt : PT) (dst : Sq) : (b.clearIfEp K pt dst).HashOk K := by
  unfold Board.clearIfEp
  split
  · split
    · exact ((h.inv K).clearSquare K _).hashOk K
    · exact h
  · exact h

theorem Board.HashOk.place {b : Board} (h : b.HashOk K) (m : Move) : (b.place K m).HashOk K := by
  rcases m with _ | (_ | _)
  · exact (h.movePiece K _ _ _ _).clearIfEp K _ _
  all_goals exact (h.movePiece K _ _ _ _).movePiece K _ _ _ _

/-- incremental = from scratch after `make_move_mut_unchecked`, for EVERY move (no legality hypothesis) -/
theorem Board.HashOk.makeMoveUnchecked {b : Board} (h : b.HashOk K) (m : Move) : (b.makeMoveUnchecked K m).HashOk K :=
  (((h.place K m).inv K).finish K m _).hashOk K

end Chess

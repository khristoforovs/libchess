import Chess.Lemmas.BB
import Chess.Model.Tables
namespace Chess

theorem foldl_collect_mem (p : Sq → Bool) (s : Sq) (l : List Sq) (acc : BB) :
    mem s (l.foldl (fun m d => if p d then m ||| bbOf d else m) acc) = (mem s acc || (decide (s ∈ l) && p s)) := by
  induction l generalizing acc with
  | nil => simp
  | cons x xs ih =>
    rw [List.foldl_cons, ih]
    by_cases hsx : s = x
    · subst hsx; cases p s <;> simp
    · cases p x <;> simp [hsx]

@[simp] theorem mem_collect (p : Sq → Bool) (s : Sq) : mem s (collect p) = p s := by
  unfold collect
  rw [foldl_collect_mem]
  simp [allSq, List.mem_finRange]

/-- an overwriting loop (`set_moves`) whose test singles out at most one square builds the set of that square -/
theorem mem_overwrite (f : BB → Sq → BB) (p : Sq → Bool) (hf : ∀ acc d, f acc d = if p d then bbOf d else acc)
    (hp : ∀ d d', p d = true → p d' = true → d = d') (s : Sq) : mem s (allSq.foldl f 0#64) = p s := by
  -- while the accumulator is blank or the singleton of the one hit so far, overwriting and OR-ing agree
  have key : ∀ (l : List Sq) (acc : BB), (acc = 0#64 ∨ ∃ d, p d = true ∧ acc = bbOf d) →
      l.foldl f acc = l.foldl (fun m d => if p d then m ||| bbOf d else m) acc := by
    intro l
    induction l with
    | nil => intro _ _; rfl
    | cons x xs ih =>
      intro acc hacc
      simp only [List.foldl_cons, hf]
      by_cases hx : p x = true
      · have : acc ||| bbOf x = bbOf x := by
          rcases hacc with rfl | ⟨d, hd, rfl⟩
          · exact BitVec.zero_or
          · rw [hp d x hd hx, BitVec.or_self]
        simp only [hx, if_true, this]
        exact ih _ (Or.inr ⟨x, hx, rfl⟩)
      · simp only [hx, Bool.false_eq_true, if_false]
        exact ih _ hacc
  rw [key allSq _ (Or.inl rfl)]
  exact mem_collect p s

/-- stated for a variable array with an equation (always `rfl`), so that it applies to the cache constants without unfolding
them in the goal -/
theorem getElem_ofFn' {α : Type} {n : Nat} (f : Fin n → α) (arr : Array α) (h : arr = Array.ofFn f)
    (i : Nat) (hi : i < arr.size) (hi' : i < n) : arr[i] = f ⟨i, hi'⟩ := by
  subst h; simp

theorem ray_eq (s : Sq) (i : Fin 8) : ray s i = rayGen s i := by
  unfold ray
  rw [getElem_ofFn' _ raysArr rfl _ _ (by omega)]
  have h1 : (s.val * 8 + i.val) / 8 = s.val := by omega
  have h2 : (s.val * 8 + i.val) % 8 = i.val := by omega
  have e1 : (⟨(s.val * 8 + i.val) / 8, by omega⟩ : Sq) = s := Fin.ext h1
  have e2 : (⟨(s.val * 8 + i.val) % 8, by omega⟩ : Fin 8) = i := Fin.ext h2
  simp only [e1, e2]

theorem knightT_eq (s : Sq) : knightT s = knightGen s := by
  unfold knightT; rw [getElem_ofFn' _ knightArr rfl _ _ s.isLt]

theorem kingT_eq (s : Sq) : kingT s = kingGen s := by
  unfold kingT; rw [getElem_ofFn' _ kingArr rfl _ _ s.isLt]

/-! the pawn caches hold White's 64 entries, then Black's: cell `s + 64 * c.idx` is read back as colour `c` and square `s` -/
theorem pawnArr_color (c : Color) (s : Sq) : (if s.val + 64 * c.idx < 64 then Color.white else Color.black) = c := by
  cases c <;> simp [Color.idx]

theorem pawnArr_sq (c : Color) (s : Sq) : (⟨(s.val + 64 * c.idx) % 64, by omega⟩ : Sq) = s := by
  apply Fin.ext; cases c <;> simp [Color.idx] <;> omega

theorem pawnPush_eq (c : Color) (s : Sq) : pawnPush c s = pawnPushGen c s := by
  unfold pawnPush; rw [getElem_ofFn' _ pawnPushArr rfl _ _ (by cases c <;> simp [Color.idx] <;> omega)]
  simp only [pawnArr_color, pawnArr_sq]

theorem pawnDouble_eq (c : Color) (s : Sq) : pawnDouble c s = pawnDoubleGen c s := by
  unfold pawnDouble; rw [getElem_ofFn' _ pawnDoubleArr rfl _ _ (by cases c <;> simp [Color.idx] <;> omega)]
  simp only [pawnArr_color, pawnArr_sq]

theorem pawnCap_eq (c : Color) (s : Sq) : pawnCap c s = pawnCapGen c s := by
  unfold pawnCap; rw [getElem_ofFn' _ pawnCapArr rfl _ _ (by cases c <;> simp [Color.idx] <;> omega)]
  simp only [pawnArr_color, pawnArr_sq]

theorem between_eq (a b : Sq) : between a b = if a.val ≤ b.val then betweenGen a b else betweenGen b a := by
  unfold between; rw [getElem_ofFn' _ betweenArr rfl _ _ (by omega)]
  have h1 : (a.val * 64 + b.val) / 64 = a.val := by omega
  have h2 : (a.val * 64 + b.val) % 64 = b.val := by omega
  simp only [h1, h2]

@[simp] theorem mem_ray (s d : Sq) (i : Fin 8) : mem d (ray s i) = rayCond i (offsets s d).1 (offsets s d).2 := by
  rw [ray_eq]; simp [rayGen]

theorem fin8 {P : Fin 8 → Prop} (h0 : P 0) (h1 : P 1) (h2 : P 2) (h3 : P 3) (h4 : P 4) (h5 : P 5) (h6 : P 6) (h7 : P 7) :
    ∀ i, P i
  | 0 => h0 | 1 => h1 | 2 => h2 | 3 => h3 | 4 => h4 | 5 => h5 | 6 => h6 | 7 => h7

end Chess

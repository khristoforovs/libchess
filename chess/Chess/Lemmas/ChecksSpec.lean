import Chess.Lemmas.PinsChecks
import Chess.Lemmas.Valid
import Chess.Props.C17
/-! C05 core: for ARBITRARY boards that encode a placement (`Rep b f`), the two masks computed by
`get_pins_and_checks` are exactly the declarative check set / pin set of `Spec` (`checks_spec`, `pinned_spec`). -/
namespace Chess
open Board Chess.C17

/-! The tables are indexed from the target square, `Spec.attacks` from the attacker: knight and king geometry are symmetric
because the offsets change sign (for the two line predicates see `Lemmas/Geo.lean`). -/

theorem natAbs_dr_comm (a b : Sq) : (dr a b).natAbs = (dr b a).natAbs := by
  simp only [dr]
  omega
theorem natAbs_df_comm (a b : Sq) : (df a b).natAbs = (df b a).natAbs := by
  simp only [df]
  omega

/-- `pawnAttT c k` = the squares from which a pawn of colour `c.other` attacks `k` -/
theorem pawnAttT_spec : ∀ (c : Color) (k x : Sq),
    mem x (Board.pawnAttT c k) = (dr x k == Spec.fwd c.other && (df x k).natAbs == 1) := by
  intro c k x
  have hopt : ∀ r f : Int,
      (mem x (match mkSq? r f with | some s => bbOf s | none => 0#64) = true) ↔ (x.rank = r ∧ x.file = f) := by
    intro r f
    rw [← mkSq?_eq_some_iff, ← beq_iff_eq (a := mkSq? r f), ← mem_optBB]
    exact Iff.rfl
  rw [Bool.eq_iff_iff]
  unfold Board.pawnAttT
  simp only [mem_or, Bool.or_eq_true]
  refine (or_congr (hopt _ _) (hopt _ _)).trans ?_
  simp only [Bool.and_eq_true, beq_iff_eq]
  -- the model steps from the target `k` towards the pawn, `dr x k` / `df x k` from the pawn `x` to `k`: the signs flip
  cases c <;> simp only [Board.fwd, Spec.fwd, Color.other, dr, df] <;> omega

theorem mem_betweenOcc {b : Board} {f : Sq → Option Piece} (h : Rep b f) (k a c : Sq) :
    mem c (b.betweenOcc k a) = ((f c).isSome && Spec.strictlyBetween a c k) := by
  rw [betweenOcc, mem_and, h.cmb, mem_between, strictlyBetween_comm]

theorem betweenOcc_zero_iff {b : Board} {f : Sq → Option Piece} (h : Rep b f) (k a : Sq) :
    b.betweenOcc k a = 0#64 ↔ Spec.clearBetween f a k = true := by
  simp only [eq_zero_iff, clearBetween_true_iff, mem_betweenOcc h]
  refine forall_congr' fun c => ?_
  cases Spec.strictlyBetween a c k <;> cases f c <;> simp

theorem checks_spec {b : Board} {f : Sq → Option Piece} (h : Rep b f) (k x : Sq) :
    mem x (b.pinsAndChecks k).2 = (Spec.isColor f b.stm.other x && Spec.attacks f x k) := by
  rw [Bool.eq_iff_iff, checks_iff]
  simp only [attackersOf, nonSliderChecks, mem_and, mem_or, h.pcs, h.cls, Spec.isColor, Spec.attacks, betweenOcc_zero_iff h,
    rook_spec, bishop_spec, knight_spec, king_spec, pawnAttT_spec]
  rcases hp : f x with _ | ⟨pt, c⟩
  · simp
  · by_cases hc : c = b.stm.other
    · subst hc
      cases pt <;> simp only [Bool.beq_eq_decide_eq (α := PT), reduceCtorEq, decide_false, decide_true, beq_self_eq_true,
        Bool.true_and, Bool.and_true, Bool.and_false, Bool.false_or, Bool.or_false, Bool.false_eq_true, false_and, false_or,
        or_false, Bool.or_true]
      -- what is left per type: the table is read from `k`, `Spec.attacks` from `x`
      case pawn => exact Iff.rfl
      case knight => rw [natAbs_dr_comm k x, natAbs_df_comm k x]; exact Iff.rfl
      case bishop => rw [diagonal_symm k x, Bool.and_eq_true]
      case rook => rw [orthogonal_symm k x, Bool.and_eq_true]
      case queen => rw [orthogonal_symm k x, diagonal_symm k x, Bool.or_comm, Bool.and_eq_true]
      case king => rw [natAbs_dr_comm k x, natAbs_df_comm k x, bne_comm]; exact Iff.rfl
    · cases pt <;> simp [hc]

theorem isUnderAttack_spec {b : Board} {f : Sq → Option Piece} (h : Rep b f) (k : Sq) :
    b.isUnderAttack k = Spec.attackedBy f b.stm.other k := by
  rw [isUnderAttack, isBlank_eq_not_any, Bool.not_not]
  simp only [checks_spec h]
  rfl

theorem kingSq?_spec {b : Board} {f : Sq → Option Piece} (h : Rep b f) (c : Color) :
    b.kingSq? c = Spec.kingSq? f c := by
  simp only [Board.kingSq?, lowest, Spec.kingSq?, h.mem_man]

theorem kingSq_spec {b : Board} {f : Sq → Option Piece} (h : Rep b f) (c : Color) (k : Sq)
    (hk : Spec.kingSq? f c = some k) : b.kingSq c = k := by
  simp [Board.kingSq, kingSq?_spec h, hk]

theorem Rep.theKing {b : Board} {f : Sq → Option Piece} (h : Rep b f) {c : Color} (hk : Spec.countPiece f ⟨.king, c⟩ = 1) :
    Spec.kingSq? f c = some (b.kingSq c) ∧ f (b.kingSq c) = some ⟨.king, c⟩ ∧
      ∀ s, f s = some ⟨.king, c⟩ → s = b.kingSq c := by
  obtain ⟨k, hks, hkk, hu⟩ := theKing_of_count hk
  rw [kingSq_spec h c k hks]
  exact ⟨hks, hkk, hu⟩

theorem Board.Cons.theKing {b : Board} (hc : b.Cons) (hp : Spec.ValidPos b.absPos = true) (c : Color) :
    Spec.kingSq? b.abs c = some (b.kingSq c) ∧ b.abs (b.kingSq c) = some ⟨.king, c⟩ ∧
      ∀ s, b.abs s = some ⟨.king, c⟩ → s = b.kingSq c :=
  Rep.theKing hc (validPos_king hp c)

theorem Board.Valid.inCheck_eq {K : Keys} {b : Board} (hv : b.Valid K) :
    (!isBlank b.checks) = Spec.inCheck b.absPos.board b.absPos.stm := by
  have hk : Spec.kingSq? b.absPos.board b.absPos.stm = some (b.kingSq b.stm) := (hv.cons.theKing hv.pos b.stm).1
  simp only [Spec.inCheck, hk]
  rw [hv.checks_eq]
  exact isUnderAttack_spec hv.cons (b.kingSq b.stm)

theorem attackersOf_spec {b : Board} {f : Sq → Option Piece} (h : Rep b f) (k a : Sq) :
    mem a (b.attackersOf k) = (Spec.isColor f b.stm.other a && Spec.sliderLine f a k) := by
  simp only [attackersOf, mem_and, mem_or, h.pcs, h.cls, Spec.isColor, Spec.sliderLine, rook_spec, bishop_spec,
    orthogonal_symm k a, diagonal_symm k a]
  rcases hp : f a with _ | ⟨pt, c⟩
  · simp
  · cases pt <;> simp [Bool.beq_eq_decide_eq (α := PT), Bool.or_comm]

theorem pinned_spec {b : Board} {f : Sq → Option Piece} (h : Rep b f) (k s : Sq) :
    mem s (b.pinsAndChecks k).1 = true ↔
      (Spec.isColor f b.stm s = true ∧ ∃ a, Spec.isColor f b.stm.other a = true ∧ Spec.sliderLine f a k = true ∧
        Spec.strictlyBetween a s k = true ∧ ∀ c, Spec.strictlyBetween a c k = true → c = s ∨ f c = none) := by
  rw [pinned_iff]
  have hcol : mem s (b.colors b.stm) = Spec.isColor f b.stm s := by rw [h.cls]; rfl
  rw [hcol]
  apply and_congr_right
  intro hown
  have hsome : (f s).isSome = true := by
    unfold Spec.isColor at hown
    cases hf : f s with
    | none => rw [hf] at hown; exact Bool.noConfusion hown
    | some q => rfl
  apply exists_congr
  intro a
  rw [attackersOf_spec h, Bool.and_eq_true, and_assoc]
  refine and_congr_right fun _ => and_congr_right fun _ => ?_
  -- exactly one occupied square between `a` and `k`: it must be `s`, which is occupied and between
  rw [popcount_one]
  simp only [mem_betweenOcc h, Bool.and_eq_true]
  constructor
  · rintro ⟨⟨s', _, huniq⟩, _, hsb⟩
    have hs' : s = s' := huniq s ⟨hsome, hsb⟩
    subst hs'
    refine ⟨hsb, fun c hc => ?_⟩
    cases hf : f c with
    | none => exact Or.inr rfl
    | some q => exact Or.inl (huniq c ⟨by rw [hf]; rfl, hc⟩)
  · rintro ⟨hsb, hall⟩
    refine ⟨⟨s, ⟨hsome, hsb⟩, fun t ht => ?_⟩, hsome, hsb⟩
    rcases hall t ht.2 with e | e
    · exact e
    · rw [e] at ht; exact absurd ht.1 (by simp)

end Chess

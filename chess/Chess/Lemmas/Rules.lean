import Chess.Lemmas.Geo
import Chess.Lemmas.List
namespace Chess
open Spec

theorem Color.eq_or_eq_other (c col : Color) : col = c ∨ col = c.other := by cases c <;> cases col <;> simp [Color.other]

theorem Color.forall_iff {P : Color → Prop} : (∀ c, P c) ↔ P .white ∧ P .black :=
  ⟨fun h => ⟨h _, h _⟩, fun h c => by cases c <;> simp [h]⟩

theorem Color.beq_other (x c : Color) : (x == c.other) = (x != c) := by
  cases x <;> cases c <;> rfl

theorem Spec.Pos.ext' {p q : Pos} (h1 : p.board = q.board) (h2 : p.stm = q.stm) (h3 : p.rights = q.rights)
    (h4 : p.ep = q.ep) (h5 : p.half = q.half) (h6 : p.full = q.full) : p = q := by
  cases p; cases q; simp_all

theorem mem_allSq (s : Sq) : s ∈ allSq := List.mem_finRange s

theorem rank_range (s : Sq) : 0 ≤ s.rank ∧ s.rank < 8 := by
  simp only [Sq.rank]; have := s.isLt; omega

theorem file_range (s : Sq) : 0 ≤ s.file ∧ s.file < 8 := by
  simp only [Sq.file]; have := s.isLt; omega

theorem fwd_cases (c : Color) : fwd c = 1 ∨ fwd c = -1 := by cases c <;> simp [fwd]
theorem fwd_other (c : Color) : fwd c.other = - fwd c := by cases c <;> simp [fwd, Color.other]

/-- home-rank square of colour `c` on file `f` (the `sq`/`corner` of the rules) -/
def hsqS (c : Color) (f : Nat) : Sq := ⟨((homeRank c).toNat * 8 + f) % 64, Nat.mod_lt _ (by decide)⟩

theorem hsq_rank (c : Color) (f : Nat) (hf : f < 8) : (hsqS c f).rank = homeRank c := by
  cases c <;> simp only [hsqS, homeRank, Sq.rank] <;> omega

theorem hsq_file (c : Color) (f : Nat) (hf : f < 8) : (hsqS c f).file = f := by
  cases c <;> simp only [hsqS, homeRank, Sq.file] <;> omega

theorem hsq_inj {c : Color} {f g : Nat} (hf : f < 8) (hg : g < 8) (h : hsqS c f = hsqS c g) : f = g := by
  have := hsq_file c f hf
  rw [h, hsq_file c g hg] at this
  omega

theorem hsq_ne {c : Color} {f g : Nat} (hf : f < 8 := by decide) (hg : g < 8 := by decide) (h : f ≠ g := by decide) :
    hsqS c f ≠ hsqS c g :=
  mt (hsq_inj hf hg) h

theorem Sq.file_bne (a b : Sq) : (a.file != b.file) = (a.fl != b.fl) := by
  rw [Bool.eq_iff_iff]; simp only [bne_iff_ne, ne_eq, Sq.file, Sq.fl]; omega
theorem Sq.rank_bne (a b : Sq) : (a.rank != b.rank) = (a.rk != b.rk) := by
  rw [Bool.eq_iff_iff]; simp only [bne_iff_ne, ne_eq, Sq.rank, Sq.rk]; omega

theorem countPiece_eq_one_iff (bd : Sq → Option Piece) (x : Piece) :
    countPiece bd x = 1 ↔ ∃ k, bd k = some x ∧ ∀ s, bd s = some x → s = k := by
  unfold countPiece allSq
  rw [List.countP_eq_length_filter, nodup_length_eq_one_iff ((List.nodup_finRange 64).filter _)]
  simp only [List.mem_filter, List.mem_finRange, true_and, beq_iff_eq]

theorem countPiece_congr {bd bd' : Sq → Option Piece} {x : Piece} (h : ∀ s, bd' s = some x ↔ bd s = some x) :
    countPiece bd' x = countPiece bd x :=
  List.countP_congr fun s _ => by simp only [beq_iff_eq]; exact h s

theorem kingSq?_some {bd : Sq → Option Piece} {c : Color} {k : Sq} (h : kingSq? bd c = some k) :
    bd k = some ⟨.king, c⟩ := by
  simpa using List.find?_some h

theorem kingSq?_none {bd : Sq → Option Piece} {c : Color} (h : kingSq? bd c = none) (s : Sq) :
    bd s ≠ some ⟨.king, c⟩ := by
  simpa using List.find?_eq_none.1 h s (mem_allSq s)

theorem kingSq?_of_unique {bd : Sq → Option Piece} {c : Color} {k : Sq}
    (hk : bd k = some ⟨.king, c⟩) (hu : ∀ s, bd s = some ⟨.king, c⟩ → s = k) : kingSq? bd c = some k := by
  cases hf : kingSq? bd c with
  | none => exact absurd hk (kingSq?_none hf k)
  | some a => rw [hu a (kingSq?_some hf)]

theorem kingSq?_congr (f g : Sq → Option Piece) (c : Color)
    (h : ∀ s, (f s = some ⟨.king, c⟩) ↔ (g s = some ⟨.king, c⟩)) : Spec.kingSq? f c = Spec.kingSq? g c := by
  unfold Spec.kingSq?
  congr 1
  funext s
  rw [Bool.eq_iff_iff]
  simpa using h s

theorem theKing_of_count {bd : Sq → Option Piece} {c : Color} (h : countPiece bd ⟨.king, c⟩ = 1) :
    ∃ k, kingSq? bd c = some k ∧ bd k = some ⟨.king, c⟩ ∧ ∀ s, bd s = some ⟨.king, c⟩ → s = k := by
  obtain ⟨k, hk, hu⟩ := (countPiece_eq_one_iff _ _).1 h
  exact ⟨k, kingSq?_of_unique hk hu, hk, hu⟩

theorem isColor_iff (f : Sq → Option Piece) (c : Color) (s : Sq) :
    isColor f c s = true ↔ ∃ q, f s = some q ∧ q.c = c := by
  unfold isColor
  cases f s with
  | none => simp
  | some q => simp

theorem isColor_other_own (c : Color) (t : PT) (f : Sq → Option Piece) (s : Sq) (h : f s = some ⟨t, c⟩) :
    isColor f c.other s = false := by
  unfold isColor; rw [h]; cases c <;> rfl

theorem isColor_none (c : Color) (f : Sq → Option Piece) (s : Sq) (h : f s = none) :
    Spec.isColor f c s = false := by
  unfold isColor; rw [h]

theorem attackedBy_eq_any (f : Sq → Option Piece) (c : Color) (t : Sq) :
    attackedBy f c t = allSq.any fun a => isColor f c a && attacks f a t := rfl

/-! ### `attacks` depends only on the attacker and on the emptiness of the squares strictly between -/
theorem clearBetween_true_iff (f : Sq → Option Piece) (a t : Sq) :
    clearBetween f a t = true ↔ ∀ x, strictlyBetween a x t = true → f x = none := by
  simp only [clearBetween, List.all_eq_true, allSq, List.mem_finRange, true_implies, Bool.or_eq_true,
    Bool.not_eq_true', Option.isNone_iff_eq_none, ← Bool.not_eq_true, ← Decidable.imp_iff_not_or]

theorem clearBetween_congr (f g : Sq → Option Piece) (a t : Sq)
    (h : ∀ x, strictlyBetween a x t = true → (f x).isNone = (g x).isNone) :
    clearBetween f a t = clearBetween g a t := by
  unfold clearBetween
  apply List.all_congr rfl
  intro x
  cases hb : strictlyBetween a x t with
  | false => rfl
  | true => simp [h x hb]

theorem clearBetween_false_of (f : Sq → Option Piece) (a t x : Sq)
    (hx : strictlyBetween a x t = true) (hf : (f x).isSome = true) : clearBetween f a t = false := by
  rw [← Bool.not_eq_true, clearBetween_true_iff]
  intro hall
  rw [hall x hx] at hf
  cases hf

theorem attacks_congr (f g : Sq → Option Piece) (a t : Sq) (ha : f a = g a)
    (hc : clearBetween f a t = clearBetween g a t) : attacks f a t = attacks g a t := by
  unfold attacks
  rw [ha, hc]

theorem attackedBy_congr (f g : Sq → Option Piece) (c : Color) (t u : Sq)
    (h : ∀ a, (isColor f c a && attacks f a t) = (isColor g c a && attacks g a u)) :
    attackedBy f c t = attackedBy g c u := by
  rw [attackedBy_eq_any, attackedBy_eq_any]
  apply List.any_congr rfl
  intro a
  exact h a

theorem attackedBy_congr_occ (f g : Sq → Option Piece) (c : Color) (t : Sq)
    (hmen : ∀ a, isColor f c a = true ∨ isColor g c a = true → f a = g a)
    (hocc : ∀ x, (f x).isNone = (g x).isNone) : attackedBy f c t = attackedBy g c t := by
  apply attackedBy_congr
  intro a
  by_cases h : isColor f c a = true ∨ isColor g c a = true
  · have e := hmen a h
    rw [attacks_congr f g a t e (clearBetween_congr f g a t fun x _ => hocc x)]
    simp only [isColor, e]
  · rw [not_or, Bool.not_eq_true, Bool.not_eq_true] at h
    rw [h.1, h.2]
    rfl

/-- movement geometry of a man, without the emptiness condition -/
def moveGeom (p : Piece) (a t : Sq) : Bool :=
  let dr := t.rank - a.rank; let df := t.file - a.file
  match p.pt with
  | .knight => (dr.natAbs == 1 && df.natAbs == 2) || (dr.natAbs == 2 && df.natAbs == 1)
  | .king   => a != t && dr.natAbs ≤ 1 && df.natAbs ≤ 1
  | .rook   => Spec.orthogonal a t
  | .bishop => Spec.diagonal a t
  | .queen  => Spec.orthogonal a t || Spec.diagonal a t
  | .pawn   => dr == Spec.fwd p.c && df.natAbs == 1
def isSlider (p : Piece) : Bool := p.pt == .rook || p.pt == .bishop || p.pt == .queen

theorem attackedBy_iff (f : Sq → Option Piece) (c : Color) (t : Sq) :
    Spec.attackedBy f c t = true ↔ ∃ a p, f a = some p ∧ p.c = c ∧ Spec.attacks f a t = true := by
  simp only [attackedBy_eq_any, List.any_eq_true, Bool.and_eq_true, isColor_iff, mem_allSq, true_and]
  exact ⟨fun ⟨a, ⟨p, h1, h2⟩, h3⟩ => ⟨a, p, h1, h2, h3⟩, fun ⟨a, p, h1, h2, h3⟩ => ⟨a, ⟨p, h1, h2⟩, h3⟩⟩

theorem attacks_eq (bd : Sq → Option Piece) (a t : Sq) (p : Piece) (h : bd a = some p) :
    Spec.attacks bd a t = (moveGeom p a t && (!isSlider p || Spec.clearBetween bd a t)) := by
  unfold Spec.attacks
  rw [h]
  obtain ⟨pt, c⟩ := p
  cases pt <;> simp [moveGeom, isSlider]

theorem moveGeom_slider_mono (p : Piece) (a e f : Sq) (hs : isSlider p = true) (hr : moveGeom p a f = true)
    (ho : Spec.orthogonal a f = true → Spec.orthogonal a e = true)
    (hd : Spec.diagonal a f = true → Spec.diagonal a e = true) : moveGeom p a e = true := by
  obtain ⟨pt, c⟩ := p
  cases pt <;> simp [isSlider] at hs <;> simp only [moveGeom] at hr ⊢
  · exact hd hr
  · exact ho hr
  · rw [Bool.or_eq_true] at hr ⊢
    exact hr.imp ho hd

theorem epOk_iff (p : Pos) : epOk p = true ↔ ∀ e, p.ep = some e →
    e.rank = (if p.stm = .white then 5 else 2) ∧ p.board e = none ∧
    (∃ s, mkSq? (e.rank + fwd p.stm.other) e.file = some s ∧ p.board s = some ⟨.pawn, p.stm.other⟩) ∧
    (∃ s, mkSq? (e.rank - fwd p.stm.other) e.file = some s ∧ p.board s = none) := by
  unfold epOk
  cases hep : p.ep with
  | none => simp
  | some e =>
    simp only [Option.some.injEq, forall_eq', Bool.and_eq_true, beq_iff_eq, Option.isNone_iff_eq_none, and_assoc]
    refine and_congr ?_ (and_congr Iff.rfl (and_congr ?_ ?_))
    · cases p.stm <;> simp
    · cases mkSq? (e.rank + fwd p.stm.other) e.file <;> simp
    · cases mkSq? (e.rank - fwd p.stm.other) e.file <;> simp

theorem validPos_iff (p : Pos) : ValidPos p = true ↔
    (∀ c, countPiece p.board ⟨.king, c⟩ = 1) ∧ inCheck p.board p.stm.other = false ∧
    (∀ c, rightsOk p c = true) ∧ epOk p = true := by
  simp only [ValidPos, Bool.and_eq_true, beq_iff_eq, Bool.not_eq_true', Color.forall_iff, and_assoc]

theorem validPos_king {p : Pos} (hv : ValidPos p = true) (c : Color) : countPiece p.board ⟨.king, c⟩ = 1 :=
  ((validPos_iff p).1 hv).1 c

theorem validPos_rightsOk {p : Pos} (hv : ValidPos p = true) (c : Color) : rightsOk p c = true :=
  ((validPos_iff p).1 hv).2.2.1 c

theorem validPos_epOk {p : Pos} (hv : ValidPos p = true) : epOk p = true := ((validPos_iff p).1 hv).2.2.2

theorem validPos_theKing {p : Pos} (hv : ValidPos p = true) (c : Color) :
    ∃ k, kingSq? p.board c = some k ∧ p.board k = some ⟨.king, c⟩ ∧ ∀ s, p.board s = some ⟨.king, c⟩ → s = k :=
  theKing_of_count (validPos_king hv c)

section pseudo
variable {p : Pos} {pt : PT} {src dst : Sq} {promo : Option PT}

theorem pseudo_src (h : pseudo p pt src dst promo = true) : p.board src = some ⟨pt, p.stm⟩ := by
  simp only [pseudo, Bool.and_eq_true, beq_iff_eq] at h
  exact h.1.1

theorem pseudo_dst (h : pseudo p pt src dst promo = true) (q : Piece) (hq : p.board dst = some q) : q.c ≠ p.stm := by
  simp only [pseudo, Bool.and_eq_true, beq_iff_eq] at h
  have := h.1.2
  rw [hq] at this
  simpa using this

theorem pseudo_ne (h : pseudo p pt src dst promo = true) : src ≠ dst := by
  intro e
  have h1 := pseudo_src h
  rw [e] at h1
  exact pseudo_dst h _ h1 rfl

theorem pseudo_pawn (h : pseudo p .pawn src dst promo = true) :
    ((dst.file - src.file = 0 ∧ dst.rank - src.rank = fwd p.stm ∧ p.board dst = none) ∨
     (dst.file - src.file = 0 ∧ dst.rank - src.rank = 2 * fwd p.stm ∧ src.rank = pawnRank p.stm ∧ p.board dst = none ∧
        ∃ m, mkSq? (src.rank + fwd p.stm) src.file = some m ∧ p.board m = none) ∨
     ((dst.file - src.file).natAbs = 1 ∧ dst.rank - src.rank = fwd p.stm ∧ (p.board dst ≠ none ∨ p.ep = some dst))) ∧
    (if dst.rank = lastRank p.stm then promo = some .knight ∨ promo = some .bishop ∨ promo = some .rook ∨ promo = some .queen
     else promo = none) := by
  simp only [pseudo, Bool.and_eq_true, beq_iff_eq, Bool.or_eq_true, Option.isNone_iff_eq_none,
    Option.isSome_iff_ne_none] at h
  obtain ⟨-, hmove, hpromo⟩ := h
  refine ⟨?_, ?_⟩
  · rcases hmove with (⟨⟨hf, hr⟩, hd⟩ | ⟨⟨⟨⟨hf, hr⟩, hp⟩, hd⟩, hmid⟩) | ⟨⟨hf, hr⟩, hcap⟩
    · exact .inl ⟨hf, hr, hd⟩
    · refine .inr (.inl ⟨hf, hr, hp, hd, ?_⟩)
      cases hm : mkSq? (src.rank + fwd p.stm) src.file with
      | none => rw [hm] at hmid; cases hmid
      | some m => rw [hm] at hmid; exact ⟨m, rfl, by simpa using hmid⟩
    · exact .inr (.inr ⟨hf, hr, hcap⟩)
  · by_cases hl : dst.rank = lastRank p.stm
    · rw [if_pos hl]; simpa [hl, or_assoc] using hpromo
    · rw [if_neg hl]; simpa [hl] using hpromo

theorem pseudo_nonpawn (hpt : pt ≠ .pawn) (h : pseudo p pt src dst promo = true) :
    attacks p.board src dst = true ∧ promo = none := by
  simp only [pseudo, Bool.and_eq_true, beq_iff_eq] at h
  have := h.2
  cases pt <;> first | exact absurd rfl hpt | simpa using this

theorem pseudo_attacks (h : pseudo p pt src dst promo = true) (hocc : p.board dst ≠ none) :
    attacks p.board src dst = true := by
  by_cases hpt : pt = .pawn
  · subst hpt
    have hs := pseudo_src h
    rcases (pseudo_pawn h).1 with h1 | h1 | h1
    · exact absurd h1.2.2 hocc
    · exact absurd h1.2.2.2.1 hocc
    · simp only [attacks, hs, Bool.and_eq_true, beq_iff_eq]
      exact ⟨h1.2.1, h1.1⟩
  · exact (pseudo_nonpawn hpt h).1

theorem pseudo_getD_king (h : pseudo p pt src dst promo = true) : promo.getD pt = .king ↔ pt = .king := by
  by_cases hpt : pt = .pawn
  · subst hpt
    have := (pseudo_pawn h).2
    split at this
    · rcases this with h | h | h | h <;> subst h <;> simp
    · subst this; simp
  · rw [(pseudo_nonpawn hpt h).2]; simp

end pseudo

theorem legal_piece {p : Pos} {pt : PT} {src dst : Sq} {promo : Option PT} : legal p (.piece pt src dst promo) = true ↔
    pseudo p pt src dst promo = true ∧ inCheck (applyBoard p (.piece pt src dst promo)) p.stm = false := by
  simp only [legal, Bool.and_eq_true, Bool.not_eq_true']

theorem spec_legal_nonpawn_promo (q : Spec.Pos) (pt : PT) (s d : Sq) (pr : Option PT) (hp : pt ≠ .pawn)
    (h : Spec.legal q (.piece pt s d pr) = true) : pr = none := by
  simp only [Spec.legal, Bool.and_eq_true] at h
  exact (pseudo_nonpawn hp h.1).2

theorem spec_legal_constructible {q : Spec.Pos} {m : Move} (h : Spec.legal q m = true) :
    ∀ pt s d, m ≠ .piece pt s d (some .pawn) := by
  rintro pt s d rfl
  by_cases hp : pt = .pawn
  · subst hp
    simp only [Spec.legal, Bool.and_eq_true] at h
    have h3 := (pseudo_pawn h.1).2
    split at h3 <;> simp at h3
  · cases spec_legal_nonpawn_promo q pt s d _ hp h

theorem Spec.upd_self (f : Sq → Option Piece) (s : Sq) : Spec.upd f s (f s) = f := by
  funext x; simp only [Spec.upd]; split <;> simp_all

/-- the square of the pawn removed by an en-passant capture (computed without any legality assumption) -/
def victim? (p : Pos) (pt : PT) (dst : Sq) : Option Sq :=
  if pt == .pawn && p.ep == some dst then mkSq? (dst.rank - fwd p.stm) dst.file else none

theorem applyBoard_piece (p : Pos) (pt : PT) (src dst : Sq) (promo : Option PT) (x : Sq) :
    applyBoard p (.piece pt src dst promo) x =
      if victim? p pt dst = some x then none
      else if x = dst then some ⟨promo.getD pt, p.stm⟩
      else if x = src then none else p.board x := by
  simp only [applyBoard, victim?]
  by_cases hc : (pt == .pawn && p.ep == some dst) = true
  · simp only [if_pos hc]
    cases hm : mkSq? (dst.rank - fwd p.stm) dst.file with
    | none => simp [upd]
    | some v =>
      simp only [upd, Option.some.injEq]
      by_cases hx : x = v
      · simp [hx]
      · have hx' : ¬ v = x := fun e => hx e.symm
        simp [hx, hx']
  · simp only [if_neg hc]
    simp [upd]

theorem victim?_ne_dst {p : Pos} {pt : PT} {dst v : Sq} (h : victim? p pt dst = some v) : v ≠ dst := by
  unfold victim? at h
  split at h
  · have := (mkSq?_eq_some_iff.1 h).1
    intro e; subst e
    rcases fwd_cases p.stm with hf | hf <;> rw [hf] at this <;> omega
  · cases h

theorem applyBoard_piece_dst (p : Pos) (pt : PT) (src dst : Sq) (promo : Option PT) :
    applyBoard p (.piece pt src dst promo) dst = some ⟨promo.getD pt, p.stm⟩ := by
  rw [applyBoard_piece, if_neg (fun h => victim?_ne_dst h rfl), if_pos rfl]

theorem victim?_pawn {p : Pos} (he : epOk p = true) {pt : PT} {dst v : Sq} (h : victim? p pt dst = some v) :
    p.board v = some ⟨.pawn, p.stm.other⟩ := by
  unfold victim? at h
  split at h
  · rename_i hc
    simp only [Bool.and_eq_true, beq_iff_eq] at hc
    obtain ⟨s, hs, hb⟩ := ((epOk_iff p).mp he dst hc.2).2.2.1
    rw [fwd_other, ← Int.sub_eq_add_neg, h] at hs
    injection hs with hs
    rw [hs]; exact hb
  · cases h

theorem applyBoard_piece_eq_some {p : Pos} {pt : PT} {src dst : Sq} {promo : Option PT} {x : Sq} {q : Piece} :
    applyBoard p (.piece pt src dst promo) x = some q ↔
      (x = dst ∧ (⟨promo.getD pt, p.stm⟩ : Piece) = q) ∨
      (x ≠ dst ∧ x ≠ src ∧ victim? p pt dst ≠ some x ∧ p.board x = some q) := by
  by_cases hd : x = dst
  · subst hd
    simp [applyBoard_piece_dst]
  · rw [applyBoard_piece]
    by_cases hv : victim? p pt dst = some x
    · simp [hv, hd]
    · by_cases hs : x = src
      · subst hs; simp [hv, hd]
      · simp [hv, hd, hs]

theorem applyBoard_piece_eq_none {p : Pos} {pt : PT} {src dst : Sq} {promo : Option PT} {x : Sq} :
    applyBoard p (.piece pt src dst promo) x = none ↔
      x ≠ dst ∧ (victim? p pt dst = some x ∨ x = src ∨ p.board x = none) := by
  by_cases hd : x = dst
  · subst hd
    simp [applyBoard_piece_dst]
  · rw [applyBoard_piece]
    by_cases hv : victim? p pt dst = some x
    · simp [hv, hd]
    · by_cases hs : x = src
      · subst hs; simp [hv, hd]
      · simp [hv, hd, hs]

/-- where the mover's king stands after a piece move (no legality assumed: the man on `src` is the mover's `pt`, no own
king is taken, and a king lands only if a king left) -/
theorem own_king_after {p : Pos} {pt : PT} {src dst k : Sq} {promo : Option PT}
    (hk0 : p.board k = some ⟨.king, p.stm⟩) (hu : ∀ s, p.board s = some ⟨.king, p.stm⟩ → s = k)
    (hsrc : p.board src = some ⟨pt, p.stm⟩) (hdst : dst ≠ k) (hg : promo.getD pt = .king ↔ pt = .king)
    (hvict : victim? p pt dst ≠ some k) (s : Sq) :
    applyBoard p (.piece pt src dst promo) s = some ⟨.king, p.stm⟩ ↔ s = if pt = .king then dst else k := by
  have hk : ∀ s, p.board s = some ⟨.king, p.stm⟩ ↔ s = k := fun s => ⟨hu s, fun e => e ▸ hk0⟩
  have hks : pt = .king ↔ src = k := by rw [← hk src, hsrc]; simp
  rw [applyBoard_piece_eq_some, hk, Piece.mk.injEq, hg, and_iff_left rfl]
  by_cases hpt : pt = .king
  · -- the king moved: `src`, the one square that held a king, is vacated
    rw [if_pos hpt, ← hks.1 hpt]
    constructor
    · rintro (⟨h, -⟩ | ⟨-, hs, -, h⟩)
      · exact h
      · exact absurd h hs
    · exact fun h => .inl ⟨h, hpt⟩
  · -- another man moved: `k` is none of `dst`, `src` and the victim's square
    rw [if_neg hpt]
    constructor
    · rintro (⟨-, h⟩ | ⟨-, -, -, h⟩)
      · exact absurd h hpt
      · exact h
    · rintro rfl
      exact .inr ⟨hdst.symm, Ne.symm (mt hks.2 hpt), hvict, rfl⟩

def rookFrom : Side → Nat | .king => 7 | .queen => 0
def kingTo : Side → Nat | .king => 6 | .queen => 2
def rookTo : Side → Nat | .king => 5 | .queen => 3

/-- the placement after castling with king `e → g`, rook `h → f` -/
def castled (P : Sq → Option Piece) (c : Color) (e h g f : Sq) : Sq → Option Piece :=
  upd (upd (upd (upd P e none) h none) g (some ⟨.king, c⟩)) f (some ⟨.rook, c⟩)

theorem castled_apply (P : Sq → Option Piece) (c : Color) (e h g f x : Sq) :
    castled P c e h g f x =
      if x = f then some ⟨.rook, c⟩ else if x = g then some ⟨.king, c⟩ else if x = h then none else
      if x = e then none else P x := rfl

theorem applyBoard_castle (p : Pos) (s : Side) : applyBoard p (.castle s) =
    castled p.board p.stm (hsqS p.stm 4) (hsqS p.stm (rookFrom s)) (hsqS p.stm (kingTo s)) (hsqS p.stm (rookTo s)) := by
  cases s <;> rfl

theorem castled_eq_some {P : Sq → Option Piece} {c : Color} {e h g f x : Sq} {q : Piece} :
    castled P c e h g f x = some q ↔
      (x = f ∧ (⟨.rook, c⟩ : Piece) = q) ∨ (x ≠ f ∧ x = g ∧ (⟨.king, c⟩ : Piece) = q) ∨
      (x ≠ f ∧ x ≠ g ∧ x ≠ h ∧ x ≠ e ∧ P x = some q) := by
  rw [castled_apply]
  repeat' split
  all_goals (subst_vars; simp [*])

theorem castled_king {P : Sq → Option Piece} {c : Color} {e h g f : Sq}
    (hu : ∀ s, P s = some ⟨.king, c⟩ → s = e) (hgf : g ≠ f) (x : Sq) :
    castled P c e h g f x = some ⟨.king, c⟩ ↔ x = g := by
  rw [castled_eq_some]
  constructor
  · rintro (⟨_, h⟩ | ⟨_, h, _⟩ | ⟨_, _, _, he, h⟩)
    · cases h
    · exact h
    · exact absurd (hu x h) he
  · rintro rfl
    exact .inr (.inl ⟨hgf, rfl, rfl⟩)

theorem own_king_castle {p : Pos} (s : Side) (h4 : p.board (hsqS p.stm 4) = some ⟨.king, p.stm⟩) {k : Sq}
    (hu : ∀ s, p.board s = some ⟨.king, p.stm⟩ → s = k) (x : Sq) :
    applyBoard p (.castle s) x = some ⟨.king, p.stm⟩ ↔ x = hsqS p.stm (kingTo s) := by
  rw [applyBoard_castle]
  refine castled_king (fun y hy => (hu y hy).trans (hu _ h4).symm) (fun e => ?_) x
  have := hsq_inj (by cases s <;> decide) (by cases s <;> decide) e
  cases s <;> cases this

theorem rightsOk_iff (p : Pos) (c : Color) : rightsOk p c = true ↔
    (((p.rights c).k = true ∨ (p.rights c).q = true) → p.board (hsqS c 4) = some ⟨.king, c⟩) ∧
    ((p.rights c).k = true → p.board (hsqS c 7) = some ⟨.rook, c⟩) ∧
    ((p.rights c).q = true → p.board (hsqS c 0) = some ⟨.rook, c⟩) := by
  simp only [rightsOk, hsqS, Bool.and_eq_true, Bool.or_eq_true, Bool.not_eq_true', beq_iff_eq, and_assoc]
  cases (p.rights c).k <;> cases (p.rights c).q <;> simp

theorem rightsOk_iff_has (p : Pos) (c : Color) : rightsOk p c = true ↔ ∀ s, (p.rights c).has s = true →
    p.board (hsqS c 4) = some ⟨.king, c⟩ ∧ p.board (hsqS c (rookFrom s)) = some ⟨.rook, c⟩ := by
  rw [rightsOk_iff]
  constructor
  · rintro ⟨h4, h7, h0⟩ (_ | _) hs
    · exact ⟨h4 (.inl hs), h7 hs⟩
    · exact ⟨h4 (.inr hs), h0 hs⟩
  · exact fun h => ⟨fun hkq => hkq.elim (fun hk => (h .king hk).1) fun hq => (h .queen hq).1, fun hk => (h .king hk).2,
      fun hq => (h .queen hq).2⟩

/-- files of the home-rank squares that must be empty -/
def pathFiles : Side → List Nat | .king => [5, 6] | .queen => [1, 2, 3]

theorem path_mem (s : Side) : kingTo s ∈ pathFiles s ∧ rookTo s ∈ pathFiles s := by cases s <;> decide

theorem castleOk_eq (p : Pos) (s : Side) : castleOk p s =
    ((p.rights p.stm).has s && (p.board (hsqS p.stm 4) == some ⟨.king, p.stm⟩) &&
     (p.board (hsqS p.stm (rookFrom s)) == some ⟨.rook, p.stm⟩ && (pathFiles s).all fun k => (p.board (hsqS p.stm k)).isNone) &&
     !inCheck p.board p.stm && !attackedBy p.board p.stm.other (hsqS p.stm (rookTo s)) &&
     !inCheck (applyBoard p (.castle s)) p.stm) := by
  -- after re-association the two sides differ only in how the squares are written: `sq k` of `castleOk` unfolds to `hsqS _ k`
  cases s <;> simp only [castleOk, pathFiles, List.all_cons, List.all_nil, Bool.and_true, Bool.and_assoc] <;> rfl

/-- what the frame lemmas need of a legal castling move; the remaining clauses of `castleOk` are dropped -/
theorem castleOk_placement {p : Pos} {s : Side} (h : castleOk p s = true) :
    (p.rights p.stm).has s = true ∧
    p.board (hsqS p.stm 4) = some ⟨.king, p.stm⟩ ∧
    p.board (hsqS p.stm (rookFrom s)) = some ⟨.rook, p.stm⟩ ∧
    p.board (hsqS p.stm (kingTo s)) = none ∧
    p.board (hsqS p.stm (rookTo s)) = none ∧
    inCheck (applyBoard p (.castle s)) p.stm = false := by
  rw [castleOk_eq] at h
  simp only [Bool.and_eq_true, beq_iff_eq, Bool.not_eq_true', List.all_eq_true, Option.isNone_iff_eq_none] at h
  obtain ⟨⟨⟨⟨⟨hr, hK⟩, hR, hpath⟩, _⟩, _⟩, hsafe⟩ := h
  exact ⟨hr, hK, hR, hpath _ (path_mem s).1, hpath _ (path_mem s).2, hsafe⟩

/-! ### the successor position, field by field (`ownRights` … `resetsClock` are the `let`s of `Spec.apply`) -/

def ownRights (r : Rights) (c : Color) : Move → Rights
  | .castle _ => ⟨false, false⟩
  | .piece .king _ _ _ => ⟨false, false⟩
  | .piece .rook src _ _ => dropRights r (src == hsqS c 7) (src == hsqS c 0)
  | _ => r

def oppRights (r : Rights) (o : Color) : Move → Rights
  | .piece _ _ dst _ => dropRights r (dst == hsqS o 7) (dst == hsqS o 0)
  | _ => r

def epAfter : Move → Option Sq
  | .piece .pawn src dst _ => if (dst.rank - src.rank).natAbs == 2 then mkSq? ((src.rank + dst.rank) / 2) dst.file else none
  | _ => none

/-- does the move reset the half-move clock (`ic`: it captures) -/
def resetsClock : Move → Bool → Bool
  | .piece pt _ _ _, ic => pt == .pawn || ic
  | .castle _, _ => false

theorem apply_eq (p : Pos) (m : Move) : apply p m =
    { board := applyBoard p m, stm := p.stm.other,
      rights := fun x =>
        if x = p.stm then ownRights (p.rights p.stm) p.stm m else oppRights (p.rights p.stm.other) p.stm.other m,
      ep := epAfter m,
      half := if resetsClock m (isCapture p m) then 0 else p.half + 1,
      full := if p.stm = .black then p.full + 1 else p.full } := by
  rcases m with ⟨pt, _, _, _⟩ | _
  · cases pt <;> rfl
  · rfl

theorem apply_board_f (p : Pos) (m : Move) : (apply p m).board = applyBoard p m := rfl
theorem apply_stm_f (p : Pos) (m : Move) : (apply p m).stm = p.stm.other := rfl

/-- the man of colour `c` on square `s`, if any (the `filterMap` function of `menOf`) -/
def manAt (f : Sq → Option Piece) (c : Color) (s : Sq) : Option Piece :=
  match f s with | some q => if q.c == c then some q else none | none => none

theorem menOf_eq (f : Sq → Option Piece) (c : Color) : menOf f c = allSq.filterMap (manAt f c) := rfl

theorem manAt_eq_some {f : Sq → Option Piece} {c : Color} {s : Sq} {q : Piece} :
    manAt f c s = some q ↔ f s = some q ∧ q.c = c := by
  unfold manAt
  rcases f s with _ | p
  · simp
  · by_cases hc : p.c = c
    · simp only [hc, beq_self_eq_true, if_true, Option.some.injEq]
      exact ⟨fun e => ⟨e, e ▸ hc⟩, fun e => e.1⟩
    · simp only [beq_iff_eq, hc, if_false, Option.some.injEq, reduceCtorEq, false_iff]
      rintro ⟨rfl, e⟩
      exact hc e

theorem mem_menOf {f : Sq → Option Piece} {c : Color} {q : Piece} :
    q ∈ menOf f c ↔ (∃ s, f s = some q) ∧ q.c = c := by
  rw [menOf_eq, List.mem_filterMap]
  constructor
  · rintro ⟨s, _, hs⟩
    have := manAt_eq_some.1 hs
    exact ⟨⟨s, this.1⟩, this.2⟩
  · rintro ⟨⟨s, hs⟩, hc⟩
    exact ⟨s, List.mem_finRange s, manAt_eq_some.2 ⟨hs, hc⟩⟩

theorem cannotMate_eq (f : Sq → Option Piece) (c : Color) : cannotMate f c =
    match ((menOf f c).filter fun q => q.pt != .king).length with
    | 0 => true
    | 1 => ((menOf f c).filter fun q => q.pt != .king).any fun q => q.pt == .bishop || q.pt == .knight
    | _ => false := by
  unfold cannotMate
  generalize (menOf f c).filter (fun q => q.pt != .king) = N
  rcases N with _ | ⟨q, _ | ⟨r, l⟩⟩ <;> simp

end Chess

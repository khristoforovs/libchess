import Chess.Model.PgnRegex
/-! Facts about the backtracking matcher of `Chess/Model/PgnRegex.lean`.  A character that no piece of a pattern accepts cuts
the text — matching before it does not depend on what follows (`LocalC`) — so `findAll` distributes over it
(`findAll_append_sep`).  A continuation that fails on every suffix of a text (`Dead`) is not rescued by greedy groups in front
of it, and a pattern that is dead on a text finds no token in it. -/
namespace Chess
namespace PgnRegex

/-- the continuation `k` does not look beyond the character `c` (it can neither consume it nor depend on what follows) -/
def LocalC (c : Char) (r : Str) (k : Cont) : Prop := ∀ w, k (w ++ c :: r) = (k w).map (· ++ c :: r)

theorem local_some (c : Char) (r : Str) : LocalC c r some := fun _ => rfl

theorem local_star {c : Char} {r : Str} {p : Char → Bool} {k : Cont} (hp : p c = false) (hk : LocalC c r k) :
    LocalC c r (star p k) := by
  intro w
  induction w with
  | nil =>
    show star p k (c :: r) = (star p k []).map _
    rw [star, star, if_neg (by simp [hp])]
    exact hk []
  | cons a w ih =>
    rw [List.cons_append, star, star]
    by_cases ha : p a = true
    · rw [if_pos ha, if_pos ha, ih]
      cases h : star p k w with
      | some x => rfl
      | none => exact hk (a :: w)
    · rw [if_neg ha, if_neg ha]; exact hk (a :: w)

theorem local_one {c : Char} {r : Str} {p : Char → Bool} {k : Cont} (hp : p c = false) (hk : LocalC c r k) :
    LocalC c r (one p k) := by
  intro w
  cases w with
  | nil =>
    show one p k (c :: r) = (one p k []).map _
    rw [one, one, if_neg (by simp [hp])]; rfl
  | cons a w =>
    rw [List.cons_append, one, one]
    by_cases ha : p a = true
    · rw [if_pos ha, if_pos ha]; exact hk w
    · rw [if_neg ha, if_neg ha]; rfl

theorem local_lit {c : Char} {r : Str} (s : Str) {k : Cont} (hs : c ∉ s) (hk : LocalC c r k) :
    LocalC c r (lit s k) := by
  induction s with
  | nil => exact hk
  | cons a s ih =>
    rw [lit]
    refine local_one ?_ (ih (fun h => hs (by simp [h])))
    have : c ≠ a := fun e => hs (by simp [e])
    simpa using this

theorem local_alt {c : Char} {r : Str} {m₁ m₂ : Cont → Cont} {k : Cont} (h₁ : LocalC c r (m₁ k)) (h₂ : LocalC c r (m₂ k)) :
    LocalC c r (alt m₁ m₂ k) := by
  intro w
  unfold alt
  rw [h₁ w, h₂ w]
  cases m₁ k w <;> rfl

/-- `(m)?` is `(m)|()` -/
theorem local_opt {c : Char} {r : Str} {m : Cont → Cont} {k : Cont} (hm : LocalC c r (m k)) (hk : LocalC c r k) :
    LocalC c r (opt m k) :=
  local_alt (m₂ := fun k => k) hm hk

theorem local_starM {c : Char} {r : Str} {m : Cont → Cont} {k : Cont} (hm : ∀ k', LocalC c r k' → LocalC c r (m k'))
    (hk : LocalC c r k) (fuel : Nat) : LocalC c r (starM m k fuel) := by
  induction fuel with
  | zero => exact hk
  | succ n ih => exact local_alt (m₁ := fun _ => m (starM m k n)) (m₂ := fun k => k) (hm _ ih) hk

/-- no piece of the move pattern accepts the character -/
def InertMove (c : Char) : Prop :=
  clsPiece c = false ∧ clsFile c = false ∧ clsRank c = false ∧ clsX c = false ∧ clsPromo c = false ∧
  c ∉ ['O', '-', '=', '+', '#']

theorem suffixRe_local {c : Char} {r : Str} (h : InertMove c) {k : Cont} (hk : LocalC c r k) : LocalC c r (suffixRe k) := by
  obtain ⟨_, _, _, _, h5, h6⟩ := h
  simp only [List.mem_cons, List.not_mem_nil, or_false, not_or] at h6
  unfold suffixRe
  have e1 : LocalC c r (opt (one (· == '#')) k) := local_opt (local_one (by simpa using h6.2.2.2.2) hk) hk
  have e2 : LocalC c r (opt (one (· == '+')) (opt (one (· == '#')) k)) :=
    local_opt (local_one (by simpa using h6.2.2.2.1) e1) e1
  exact local_opt (local_one (by simpa using h6.2.2.1) (local_one h5 e2)) e2

theorem moveRe_local {c : Char} (h : InertMove c) (r : Str) : LocalC c r (moveRe some) := by
  have hs := suffixRe_local (r := r) h (local_some c r)
  obtain ⟨h1, h2, h3, h4, _, h6⟩ := h
  unfold moveRe
  refine local_alt ?_ ?_
  · exact local_star h1 (local_star h2 (local_star h3 (local_star h4 (local_one h2 (local_one h3 hs)))))
  · unfold castleAlt
    have a1 : c ∉ ['O', '-', 'O'] := by
      intro hm; apply h6
      simp only [List.mem_cons, List.not_mem_nil, or_false] at hm
      rcases hm with rfl | rfl | rfl <;> decide
    have a2 : c ∉ ['-', 'O'] := fun hm => a1 (List.mem_cons_of_mem _ hm)
    exact local_lit _ a1 (local_opt (local_lit _ a2 hs) hs)

theorem resultRe_local {c : Char} (h : c ∉ ['1', '-', '0', '/', '2']) (r : Str) : LocalC c r (resultRe some) := by
  simp only [List.mem_cons, List.not_mem_nil, or_false, not_or] at h
  unfold resultRe
  refine local_alt (local_lit _ ?_ (local_some c r)) (local_alt (local_lit _ ?_ (local_some c r)) (local_lit _ ?_ (local_some c r)))
  all_goals simp only [List.mem_cons, List.not_mem_nil, or_false, not_or]; simp [h]

theorem lit_sound {pat : Str} {k : Cont} {s r : Str} (h : lit pat k s = some r) : ∃ t, s = pat ++ t ∧ k t = some r := by
  induction pat generalizing s with
  | nil => exact ⟨s, rfl, h⟩
  | cons a pat ih =>
    cases s with
    | nil => cases h
    | cons c t =>
      rw [lit, one] at h
      split at h
      · next hc =>
        obtain ⟨t', rfl, h'⟩ := ih h
        exact ⟨t', by rw [beq_iff_eq.1 hc]; rfl, h'⟩
      · cases h

theorem resultRe_sound {s r : Str} (h : resultRe some s = some r) :
    s = ['1', '-', '0'] ++ r ∨ s = ['0', '-', '1'] ++ r ∨ s = ['1', '/', '2', '-', '1', '/', '2'] ++ r := by
  have key : ∀ pat, lit pat some s = some r → s = pat ++ r := fun pat h => by
    obtain ⟨t, rfl, ht⟩ := lit_sound h
    cases ht; rfl
  simp only [resultRe, alt] at h
  cases h1 : lit ['1', '-', '0'] some s with
  | some x => rw [h1] at h; exact .inl (key _ (h1.trans h))
  | none =>
    rw [h1] at h
    cases h2 : lit ['0', '-', '1'] some s with
    | some x => rw [h2] at h; exact .inr (.inl (key _ (h2.trans h)))
    | none => rw [h2] at h; exact .inr (.inr (key _ h))

/-- the matched text as `matchAt` (and `PgnTags.between`) compute it from the input left -/
theorem take_prefix (p x : Str) : (p ++ x).take ((p ++ x).length - x.length) = p := by
  rw [List.length_append, Nat.add_sub_cancel]; exact List.take_left' rfl

theorem matchAt_local {re : Cont → Cont} {c : Char} {r : Str} (h : LocalC c r (re some)) (w : Str) :
    matchAt re (w ++ c :: r) = (matchAt re w).map fun tr => (tr.1, tr.2 ++ c :: r) := by
  unfold matchAt
  rw [h w]
  cases re some w with
  | none => rfl
  | some rest =>
    simp only [Option.map_some, List.length_append, List.length_cons]
    rw [show w.length + (r.length + 1) - (rest.length + (r.length + 1)) = w.length - rest.length by omega,
      List.take_append_of_le_length (by omega)]

theorem matchAt_tok_length {re : Cont → Cont} {s tok rest : Str} (h : matchAt re s = some (tok, rest)) : tok.length ≤ s.length := by
  unfold matchAt at h
  cases hr : re some s with
  | none => rw [hr] at h; cases h
  | some x =>
    rw [hr] at h
    simp only [Option.some.injEq, Prod.mk.injEq] at h
    rw [← h.1, List.length_take]; omega

theorem findAllFrom_nil (re : Cont → Cont) (n : Nat) : findAllFrom re n [] = [] := by
  cases n <;> rfl

theorem findAll_nil (re : Cont → Cont) : findAll re [] = [] := rfl

theorem findAllFrom_succ (re : Cont → Cont) (n : Nat) (c : Char) (cs : Str) :
    findAllFrom re (n + 1) (c :: cs) = findAllFrom re n cs := rfl

theorem findAllFrom_zero (re : Cont → Cont) (c : Char) (cs : Str) :
    findAllFrom re 0 (c :: cs) =
      match matchAt re (c :: cs) with
      | some (tok, _) => tok :: findAllFrom re (tok.length - 1) cs
      | none => findAllFrom re 0 cs := rfl

theorem splitFrom_zero (fuel : Nat) (c : Char) (cs : Str) :
    splitFrom fuel 0 (c :: cs) =
      match matchAt (breaksRe fuel) (c :: cs) with
      | some (tok, _) => [] :: splitFrom fuel (tok.length - 1) cs
      | none =>
        match splitFrom fuel 0 cs with
        | p :: ps => (c :: p) :: ps
        | [] => [[c]] := rfl

theorem mem_findAllFrom {re : Cont → Cont} {tok s : Str} {n : Nat} (h : tok ∈ findAllFrom re n s) :
    ∃ t rest, matchAt re t = some (tok, rest) := by
  induction s generalizing n with
  | nil => rw [findAllFrom_nil] at h; cases h
  | cons c cs ih =>
    cases n with
    | succ n => exact ih h
    | zero =>
      rw [findAllFrom_zero] at h
      cases hm : matchAt re (c :: cs) with
      | none => rw [hm] at h; exact ih h
      | some tr =>
        rw [hm] at h
        rcases List.mem_cons.1 h with rfl | h
        · exact ⟨_, _, hm⟩
        · exact ih h

theorem findAllFrom_skip_all (re : Cont → Cont) (s : Str) (n : Nat) (h : s.length ≤ n) : findAllFrom re n s = [] := by
  induction s generalizing n with
  | nil => exact findAllFrom_nil re n
  | cons c cs ih =>
    cases n with
    | zero => simp at h
    | succ n => rw [findAllFrom_succ]; exact ih n (by simpa using h)

theorem findAll_cons_none (re : Cont → Cont) (c : Char) (cs : Str) (h : matchAt re (c :: cs) = none) :
    findAll re (c :: cs) = findAll re cs := by
  unfold findAll; rw [findAllFrom_zero, h]

theorem matchAt_none {re : Cont → Cont} {s : Str} (h : re some s = none) : matchAt re s = none := by
  unfold matchAt; rw [h]

theorem matchAt_all {re : Cont → Cont} {s : Str} (h : re some s = some []) : matchAt re s = some (s, []) := by
  unfold matchAt; rw [h]; simp

theorem findAll_whole (re : Cont → Cont) (s : Str) (hne : s ≠ []) (h : re some s = some []) : findAll re s = [s] := by
  cases s with
  | nil => exact absurd rfl hne
  | cons c cs =>
    unfold findAll
    rw [findAllFrom_zero, matchAt_all h]
    simp only [List.length_cons, Nat.add_sub_cancel]
    rw [findAllFrom_skip_all re cs _ (Nat.le_refl _)]

theorem findAllFrom_append_sep {re : Cont → Cont} {c : Char} (hloc : ∀ r, LocalC c r (re some)) (hne : re some [] = none)
    (w r : Str) (n : Nat) (hn : n ≤ w.length) :
    findAllFrom re n (w ++ c :: r) = findAllFrom re n w ++ findAllFrom re 0 r := by
  -- `hn`: the characters still covered by the previous match lie inside `w`, and a match inside `w` ends inside `w`
  -- (`matchAt_tok_length`), so the search reaches `c` with nothing to skip; no match starts at `c` (`matchAt_local`, `hne`)
  induction w generalizing n with
  | nil =>
    have : n = 0 := by simpa using hn
    subst this
    rw [List.nil_append, findAllFrom_zero, findAllFrom_nil, List.nil_append]
    have h0 := matchAt_local (hloc r) []
    rw [List.nil_append, matchAt_none hne] at h0
    rw [h0]; rfl
  | cons a w ih =>
    rw [List.cons_append]
    cases n with
    | succ n => rw [findAllFrom_succ, findAllFrom_succ]; exact ih n (by simpa using hn)
    | zero =>
      rw [findAllFrom_zero, findAllFrom_zero]
      have hm := matchAt_local (hloc r) (a :: w)
      rw [List.cons_append] at hm
      rw [hm]
      cases h : matchAt re (a :: w) with
      | none => exact ih 0 (Nat.zero_le _)
      | some tr =>
        obtain ⟨tok, rest⟩ := tr
        have hl := matchAt_tok_length h
        simp only [Option.map_some, List.cons_append]
        rw [ih (tok.length - 1) (by simp at hl; omega)]

theorem findAll_append_sep {re : Cont → Cont} {c : Char} (hloc : ∀ r, LocalC c r (re some)) (hne : re some [] = none)
    (w r : Str) : findAll re (w ++ c :: r) = findAll re w ++ findAll re r :=
  findAllFrom_append_sep hloc hne w r 0 (Nat.zero_le _)

/-- `captures_iter(..).nth(0)` of the result pattern is `1-0`, `0-1`, `1/2-1/2`, or there is no match -/
theorem findResult_values (s r : Str) (h : findResult s = some r) :
    r = "1-0".toList ∨ r = "0-1".toList ∨ r = "1/2-1/2".toList := by
  obtain ⟨t, rest, hm⟩ := mem_findAllFrom (List.mem_of_mem_head? h)
  unfold matchAt at hm
  cases hr : resultRe some t with
  | none => rw [hr] at hm; cases hm
  | some x =>
    rw [hr] at hm
    simp only [Option.some.injEq, Prod.mk.injEq] at hm
    obtain ⟨h1, rfl⟩ := hm
    rcases resultRe_sound hr with e | e | e
    all_goals
      subst e h1
      rw [take_prefix]
      simp

/-- `k` fails wherever in `s` it is started -/
def Dead (k : Cont) (s : Str) : Prop := ∀ t, t <:+ s → k t = none

theorem Dead.tail {k : Cont} {c : Char} {s : Str} (h : Dead k (c :: s)) : Dead k s :=
  fun t ht => h t (ht.trans (List.suffix_cons c s))

/-- a greedy group cannot rescue a continuation that fails wherever the group may stop -/
theorem star_eq_none {k : Cont} {t : Str} (p : Char → Bool) (h : Dead k t) : star p k t = none := by
  induction t with
  | nil => exact h [] (List.suffix_refl _)
  | cons c t ih =>
    rw [star, ih h.tail]
    have := h (c :: t) (List.suffix_refl _)
    split <;> exact this

theorem Dead.star {k : Cont} {s : Str} (p : Char → Bool) (h : Dead k s) : Dead (star p k) s :=
  fun _ ht => star_eq_none p fun u hu => h u (hu.trans ht)

theorem dead_one {p : Char → Bool} (k : Cont) {s : Str} (h : ∀ c ∈ s, p c = false) : Dead (one p k) s := by
  intro t ht
  cases t with
  | nil => rfl
  | cons c t => rw [one, if_neg (by simp [h c (ht.subset List.mem_cons_self)])]

theorem findAll_dead {re : Cont → Cont} {s : Str} (h : Dead (re some) s) : findAll re s = [] := by
  induction s with
  | nil => rfl
  | cons c cs ih =>
    rw [findAll_cons_none _ _ _ (matchAt_none (h _ (List.suffix_refl _)))]
    exact ih h.tail

/-- a move token holds a file letter or an `O`: the piece branch cannot do without `[a-h]`, the castling branch starts with `O` -/
theorem moveRe_dead {s : Str} (hf : ∀ c ∈ s, clsFile c = false) (hO : ∀ c ∈ s, (c == 'O') = false) :
    Dead (moveRe some) s := by
  intro t ht
  unfold moveRe alt pieceAlt castleAlt
  rw [((((dead_one _ hf).star clsX).star clsRank).star clsFile).star clsPiece t ht]
  exact dead_one _ hO t ht

end PgnRegex
end Chess

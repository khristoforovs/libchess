import Chess.Lemmas.BB
import Chess.Model.Board
namespace Chess

theorem mem_loopStep (b : Board) (sq a x : Sq) (acc : BB × BB) :
    (mem x (Board.loopStep b sq acc a).2 = true ↔ mem x acc.2 = true ∨ x = a ∧ Board.betweenOcc b sq a = 0#64) ∧
    (mem x (Board.loopStep b sq acc a).1 = true ↔
      mem x acc.1 = true ∨ popcount (Board.betweenOcc b sq a) = 1 ∧ mem x (Board.betweenOcc b sq a) = true) := by
  have hz := popcount_zero (Board.betweenOcc b sq a)
  simp only [Board.loopStep]
  split
  · next h => simp [hz.1 h]  -- nothing between: `a` gives check
  · next h =>  -- one man between: it is pinned (if own, which `pinsAndChecks` tests at the end)
    simp [h, show Board.betweenOcc b sq a ≠ 0#64 from fun e => by rw [hz.2 e] at h; cases h]
  · next h0 h1 =>  -- two or more between: neither
    simp [show Board.betweenOcc b sq a ≠ 0#64 from fun e => h0 (hz.2 e)]
    exact fun h => (h1 h).elim

theorem loop_spec (b : Board) (sq : Sq) (l : List Sq) (acc : BB × BB) :
    (∀ x, mem x (l.foldl (Board.loopStep b sq) acc).2 = true ↔
        (mem x acc.2 = true ∨ ∃ a ∈ l, x = a ∧ Board.betweenOcc b sq a = 0#64)) ∧
    (∀ x, mem x (l.foldl (Board.loopStep b sq) acc).1 = true ↔
        (mem x acc.1 = true ∨ ∃ a ∈ l, popcount (Board.betweenOcc b sq a) = 1 ∧ mem x (Board.betweenOcc b sq a) = true)) := by
  induction l generalizing acc with
  | nil => simp
  | cons a l ih =>
    obtain ⟨h2, h1⟩ := ih (Board.loopStep b sq acc a)
    simp only [List.foldl_cons, h1, h2, mem_loopStep, List.mem_cons, exists_eq_or_imp, or_assoc, implies_true, and_self]

theorem checks_iff (b : Board) (sq x : Sq) :
    mem x (Board.pinsAndChecks b sq).2 = true ↔
      ((mem x (Board.attackersOf b sq) = true ∧ Board.betweenOcc b sq x = 0#64) ∨ mem x (Board.nonSliderChecks b sq) = true) := by
  have := (loop_spec b sq (toList (Board.attackersOf b sq)) (0#64, 0#64)).1 x
  simp only [Board.pinsAndChecks, mem_or, Bool.or_eq_true, this, mem_zero, Bool.false_eq_true, false_or, mem_toList]
  constructor
  · rintro (⟨a, ha, rfl, hz⟩ | h)
    · exact Or.inl ⟨ha, hz⟩
    · exact Or.inr h
  · rintro (⟨ha, hz⟩ | h)
    · exact Or.inl ⟨x, ha, rfl, hz⟩
    · exact Or.inr h

theorem pinned_iff (b : Board) (sq x : Sq) :
    mem x (Board.pinsAndChecks b sq).1 = true ↔
      (mem x (b.colors b.stm) = true ∧ ∃ a, mem a (Board.attackersOf b sq) = true ∧
          popcount (Board.betweenOcc b sq a) = 1 ∧ mem x (Board.betweenOcc b sq a) = true) := by
  have := (loop_spec b sq (toList (Board.attackersOf b sq)) (0#64, 0#64)).2 x
  simp only [Board.pinsAndChecks, mem_and, Bool.and_eq_true, this, mem_zero, Bool.false_eq_true, false_or, mem_toList]
  exact And.comm

/-- Geometry-free heart of the legal-move shortcut: if the king on `k` is not in check,
the moved man on `s` is an own man that is not counted as pinned, and the move only vacates `s`
and (re)occupies `d` with an own man, then the king is not in check afterwards. -/
theorem pin_lemma (b b' : Board) (k s d : Sq)
    (hstm : b'.stm = b.stm)
    (hs_own : mem s (b.colors b.stm) = true)
    (hdisj : ∀ x, mem x (b.colors b.stm) = true → mem x (b.colors b.stm.other) = false)
    (hpieces : ∀ t x, x ≠ s → x ≠ d → mem x (b'.pieces t) = mem x (b.pieces t))
    (henemy : ∀ x, mem x (b'.colors b.stm.other) = (mem x (b.colors b.stm.other) && decide (x ≠ d)))
    (hcomb : ∀ x, mem x b'.combined = ((mem x b.combined && decide (x ≠ s)) || decide (x = d)))
    (hnocheck : (Board.pinsAndChecks b k).2 = 0#64)
    (hnotpinned : mem s (Board.pinsAndChecks b k).1 = false) :
    (Board.pinsAndChecks b' k).2 = 0#64 := by
  rw [eq_zero_iff] at hnocheck ⊢
  intro x
  have hno := hnocheck x
  rw [← Bool.not_eq_true, checks_iff] at hno ⊢
  -- an enemy man of `b'` is an enemy man of `b` standing neither on `s` nor on `d`: the same man
  have key : mem x (b'.colors b'.stm.other) = true →
      mem x (b.colors b.stm.other) = true ∧ ∀ t, mem x (b'.pieces t) = mem x (b.pieces t) := by
    rw [hstm, henemy x, Bool.and_eq_true, decide_eq_true_eq]
    rintro ⟨hxe, hxd⟩
    refine ⟨hxe, fun t => hpieces t x ?_ hxd⟩
    rintro rfl
    rw [hdisj x hs_own] at hxe
    cases hxe
  rintro (⟨hatt, hbt⟩ | hns)
  · -- a slider with nothing between it and `k` in `b'`
    simp only [Board.attackersOf, mem_and, mem_or, Bool.and_eq_true] at hatt
    obtain ⟨hxe, hpc⟩ := key hatt.1
    have hattb : mem x (Board.attackersOf b k) = true := by
      simp only [Board.attackersOf, mem_and, mem_or, Bool.and_eq_true, ← hpc]
      exact ⟨hxe, hatt.2⟩
    -- an occupied between-square of `b` other than `s` would still be occupied in `b'`
    have hall : ∀ y, mem y (Board.betweenOcc b k x) = true → y = s := by
      intro y hy
      apply Classical.byContradiction
      intro hys
      have hy' : mem y (Board.betweenOcc b' k x) = true := by
        simp only [Board.betweenOcc, mem_and, Bool.and_eq_true, hcomb y] at hy ⊢
        simp [hy.1, hy.2, hys]
      rw [hbt, mem_zero] at hy'
      cases hy'
    -- `x` gives no check in `b`, so something is between: exactly `s`, which is then pinned
    have hsin : mem s (Board.betweenOcc b k x) = true := by
      apply Classical.byContradiction
      intro hns
      refine hno (Or.inl ⟨hattb, (eq_zero_iff _).2 fun y => ?_⟩)
      cases hy : mem y (Board.betweenOcc b k x) with
      | false => rfl
      | true => exact absurd (hall y hy ▸ hy) hns
    have : mem s (Board.pinsAndChecks b k).1 = true :=
      (pinned_iff b k s).2 ⟨hs_own, x, hattb, (popcount_one _).2 ⟨s, hsin, hall⟩, hsin⟩
    rw [hnotpinned] at this
    cases this
  · -- knight / king / pawn attacker: it attacked before as well
    simp only [Board.nonSliderChecks, mem_and, mem_or, Bool.and_eq_true, hstm] at hns
    obtain ⟨hxe, hpc⟩ := key (by rw [hstm]; exact hns.1)
    refine hno (Or.inr ?_)
    simp only [Board.nonSliderChecks, mem_and, mem_or, Bool.and_eq_true, ← hpc]
    exact ⟨hxe, hns.2⟩

end Chess

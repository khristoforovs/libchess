import Chess.Props.C13Render
/-! Text lemmas for the PGN round trip (C15).  The exported move text is read by several functions — the model scanner,
the two regex tokenizers, character filters — and all of them go word by word (`Additive`): space and line feed only
separate.  For such a reader line wrapping is invisible (`Additive.wrap`), and if it also skips the move numbers it sees
the section as the SAN words followed by the result word (`Additive.moveSection`). -/
namespace Chess
open Chess.C13

/-- newline → space, as in the scanner -/
def nl2sp (t : Str) : Str := t.map fun c => if c = '\n' then ' ' else c

/-- the whitespace-separated non-empty words of a text (space and newline are the whitespace) -/
def wordsOf (t : Str) : List Str := (splitOn ' ' (nl2sp t)).filter (fun w => !w.isEmpty)

theorem wordsOf_nil : wordsOf [] = [] := by decide

/-- space and line feed both separate words (`hc`: `c` is one of the two) -/
theorem wordsOf_append_blank (c : Char) (hc : (if c = '\n' then ' ' else c) = ' ') (a b : Str) :
    wordsOf (a ++ c :: b) = wordsOf a ++ wordsOf b := by
  unfold wordsOf nl2sp
  rw [List.map_append, List.map_cons, hc, splitOn_append_sep_gen, List.filter_append]

def IsWord (w : Str) : Prop := w ≠ [] ∧ ' ' ∉ w ∧ '\n' ∉ w

theorem nl2sp_of_no_nl (w : Str) (h : '\n' ∉ w) : nl2sp w = w := by
  unfold nl2sp
  induction w with
  | nil => rfl
  | cons c w ih =>
    have hc : c ≠ '\n' := fun e => h (by simp [e])
    rw [List.map_cons, ih (fun e => h (by simp [e]))]; simp [hc]

theorem wordsOf_word (w : Str) (h : IsWord w) : wordsOf w = [w] := by
  unfold wordsOf
  rw [nl2sp_of_no_nl w h.2.2, splitOn_no_sep _ _ h.2.1]
  have : w.isEmpty = false := by cases w <;> simp_all [IsWord]
  simp [this]

open Chess.Game

/-- `F` reads a text word by word: space and line feed only separate -/
structure Additive {α} (F : Str → List α) : Prop where
  nil : F [] = []
  space : ∀ a b, F (a ++ ' ' :: b) = F a ++ F b
  nl : ∀ a b, F (a ++ '\n' :: b) = F a ++ F b

theorem wordsOf_additive : Additive wordsOf := ⟨wordsOf_nil, wordsOf_append_blank ' ' rfl, wordsOf_append_blank '\n' rfl⟩

theorem Additive.comp {α β} {F : Str → List α} (hF : Additive F) (G : List α → List β) (h0 : G [] = [])
    (hG : ∀ a b, G (a ++ b) = G a ++ G b) : Additive (fun t => G (F t)) :=
  ⟨by simp only [hF.nil, h0], fun a b => by simp only [hF.space, hG], fun a b => by simp only [hF.nl, hG]⟩

theorem filter_additive (q : Char → Bool) (hs : q ' ' = false) (hn : q '\n' = false) : Additive (List.filter q) :=
  ⟨rfl, fun a b => by simp [hs], fun a b => by simp [hn]⟩

theorem flatMap_singleton_self {α} (F : α → List α) (l : List α) (h : ∀ x ∈ l, F x = [x]) : l.flatMap F = l := by
  induction l with
  | nil => rfl
  | cons a l ih =>
    rw [List.flatMap_cons, h a List.mem_cons_self, ih (fun x hx => h x (List.mem_cons_of_mem _ hx))]
    rfl

theorem joinWith_cons (sep x : Str) (xs : List Str) :
    joinWith sep (x :: xs) = if xs = [] then x else x ++ sep ++ joinWith sep xs := by
  cases xs <;> simp [joinWith]

/-- the wrapping loop only regroups: the joined lines read as the pending line followed by the remaining words -/
theorem Additive.wrap_go {α} {F : Str → List α} (hF : Additive F) (w : Nat) (ws : List Str) (cur : Str) :
    F (joinWith ['\n'] (wrapWords.go w cur ws)) = F cur ++ ws.flatMap F := by
  fun_induction wrapWords.go w cur ws with
  | case1 cur h =>                  -- no word left, no pending line
    have : cur = [] := by simpa using h
    subst this; simp [joinWith, hF.nil]
  | case2 cur h => simp [joinWith]  -- no word left: the pending line is the last one
  | case3 cur x xs h ih =>          -- the first word opens the pending line
    have : cur = [] := by simpa using h
    subst this; rw [ih, hF.nil, List.flatMap_cons, List.nil_append]
  | case4 cur x xs h1 h2 ih =>      -- the word fits: it joins the pending line behind a space
    rw [ih, List.append_assoc, List.singleton_append, hF.space, List.append_assoc, List.flatMap_cons]
  | case5 cur x xs h1 h2 ih =>      -- it does not fit: the pending line is closed by a line feed
    rw [joinWith_cons, List.flatMap_cons]
    split
    · next h3 =>
      rw [h3] at ih
      simp only [joinWith, hF.nil] at ih
      rw [← ih, List.append_nil]
    · rw [List.append_assoc, List.singleton_append, hF.nl, ih]

theorem Additive.wrap {α} {F : Str → List α} (hF : Additive F) (w : Nat) (ws : List Str) :
    F (joinWith ['\n'] (wrapWords w ws)) = ws.flatMap F := by
  unfold wrapWords
  rw [hF.wrap_go, hF.nil, List.nil_append]

theorem wordsOf_wrapWords (w : Nat) (ws : List Str) (hw : ∀ x ∈ ws, IsWord x) :
    wordsOf (joinWith ['\n'] (wrapWords w ws)) = ws := by
  rw [wordsOf_additive.wrap]
  exact flatMap_singleton_self _ _ fun x hx => wordsOf_word x (hw x hx)

theorem mem_numbered {ply : Nat} {sans : List Str} {x : Str} (h : x ∈ numbered ply sans) :
    ∃ s ∈ sans, x = s ∨ ∃ n, x = natStr n ++ '.' :: s := by
  induction sans generalizing ply with
  | nil => cases h
  | cons s rest ih =>
    rw [numbered, List.mem_cons] at h
    rcases h with rfl | h
    · refine ⟨s, List.mem_cons_self, ?_⟩
      split
      · exact Or.inr ⟨_, rfl⟩
      · exact Or.inl rfl
    · obtain ⟨s', hs', e⟩ := ih h
      exact ⟨s', List.mem_cons_of_mem _ hs', e⟩

theorem mem_expectedTokens {bs : Bool} {sans : List Str} {x : Str} (h : x ∈ expectedTokens bs sans) :
    x = "1.".toList ∨ x = "...".toList ∨ ∃ s ∈ sans, x = s ∨ ∃ n, x = natStr n ++ '.' :: s := by
  unfold expectedTokens at h
  cases bs with
  | false => exact Or.inr (Or.inr (mem_numbered h))
  | true =>
    cases sans with
    | nil => cases h
    | cons w rest =>
      simp only [if_true, List.mem_cons] at h
      rcases h with rfl | rfl | rfl | h
      · exact Or.inl rfl
      · exact Or.inr (Or.inl rfl)
      · exact Or.inr (Or.inr ⟨_, List.mem_cons_self, Or.inl rfl⟩)
      · obtain ⟨s, hs, e⟩ := mem_numbered h
        exact Or.inr (Or.inr ⟨s, List.mem_cons_of_mem _ hs, e⟩)

theorem numbered_flatMap {α} (F : Str → List α) (ply : Nat) (sans : List Str)
    (hn : ∀ s ∈ sans, ∀ n, F (natStr n ++ '.' :: s) = F s) : (numbered ply sans).flatMap F = sans.flatMap F := by
  induction sans generalizing ply with
  | nil => rfl
  | cons s rest ih =>
    rw [numbered, List.flatMap_cons, List.flatMap_cons, ih (ply + 1) (fun y hy => hn y (List.mem_cons_of_mem _ hy))]
    split
    · rw [hn s List.mem_cons_self]
    · rfl

theorem expectedTokens_flatMap {α} (F : Str → List α) (bs : Bool) (sans : List Str)
    (h1 : F "1.".toList = []) (h2 : F "...".toList = [])
    (hn : ∀ s ∈ sans, ∀ n, F (natStr n ++ '.' :: s) = F s) : (expectedTokens bs sans).flatMap F = sans.flatMap F := by
  unfold expectedTokens
  cases bs with
  | false => exact numbered_flatMap F 0 sans hn
  | true =>
    cases sans with
    | nil => rfl
    | cons w rest =>
      simp only [if_true, List.flatMap_cons, h1, h2, List.nil_append]
      rw [numbered_flatMap F 2 rest (fun y hy => hn y (List.mem_cons_of_mem _ hy))]

/-- a reader that skips the move numbers (`1.` and `...` hold nothing, `N.san` reads as `san`) sees the wrapped, numbered move
text followed by a result word as the SAN words, then the result word — for every width and either side to move first -/
theorem Additive.moveSection {α} {F : Str → List α} (hF : Additive F) (w : Nat) (bs : Bool) (sans : List Str) (res : Str)
    (h1 : F "1.".toList = []) (h2 : F "...".toList = [])
    (hn : ∀ s ∈ sans, ∀ n, F (natStr n ++ '.' :: s) = F s) :
    F (joinWith ['\n'] (wrapWords w (expectedTokens bs sans)) ++ ' ' :: res) = sans.flatMap F ++ F res := by
  rw [hF.space, hF.wrap, expectedTokens_flatMap F bs sans h1 h2 hn]

/-- a reader for which the dot separates too, and which finds nothing in a number, skips the move numbers -/
theorem Additive.skips_numbers {α} {F : Str → List α} (hF : Additive F) (hdot : ∀ a b, F (a ++ '.' :: b) = F a ++ F b)
    (hd : ∀ n, F (natStr n) = []) :
    F "1.".toList = [] ∧ F "...".toList = [] ∧ ∀ (s : Str) (n : Nat), F (natStr n ++ '.' :: s) = F s := by
  refine ⟨?_, ?_, fun s n => by rw [hdot, hd, List.nil_append]⟩
  · have := hdot (natStr 1) []
    rw [hd, hF.nil] at this
    exact this
  · have e : "...".toList = [] ++ '.' :: ([] ++ '.' :: ([] ++ '.' :: [])) := rfl
    rw [e, hdot, hdot, hdot, hF.nil]
    rfl

/-- a SAN text contains a letter (the destination file, or the `O` of castling) -/
theorem sanText_has_alpha (m : Move) (p : MoveProps) : (sanText m p).any Char.isAlpha = true := by
  rw [List.any_eq_true]
  cases m with
  | castle s =>
    refine ⟨'O', ?_, by decide⟩
    rw [sanText_castle]; cases s <;> simp [castleStr]
  | piece pt src dst promo =>
    refine ⟨fileChar dst.fl, ?_, (by decide : ∀ f : Fin 8, (fileChar f.val).isAlpha = true) ⟨dst.fl, dst.fl_lt⟩⟩
    rw [sanText_piece]; simp [printSquare]

/-- what the scanner needs of a SAN word -/
structure SanWord (w : Str) : Prop where
  ok : ∀ c ∈ w, isSanCh c = true
  alpha : w.any Char.isAlpha = true

theorem sanText_sanWord (m : Move) (p : MoveProps) : SanWord (sanText m p) :=
  ⟨sanText_isSanCh m p, sanText_has_alpha m p⟩

theorem SanWord.ne_nil {w : Str} (h : SanWord w) : w ≠ [] := by
  rintro rfl; have := h.alpha; simp at this
theorem SanWord.not_mem {w : Str} (h : SanWord w) (c : Char) (hc : isSanCh c = false) : c ∉ w := by
  intro hm; rw [h.ok c hm] at hc; cases hc
theorem SanWord.isWord {w : Str} (h : SanWord w) : IsWord w :=
  ⟨h.ne_nil, h.not_mem ' ' (by decide), h.not_mem '\n' (by decide)⟩

theorem isResultWord_of_alpha {w : Str} (ha : w.any Char.isAlpha = true) : isResultWord w = false := by
  cases h : isResultWord w with
  | false => rfl
  | true =>
    unfold isResultWord at h
    simp only [Bool.or_eq_true, decide_eq_true_eq] at h
    rcases h with (((h | h) | h) | h) | h <;> subst h <;> cases ha

theorem SanWord.not_result {w : Str} (h : SanWord w) : isResultWord w = false :=
  isResultWord_of_alpha h.alpha

theorem SanWord.ne_dots {w : Str} (h : SanWord w) : w ≠ "...".toList := by
  rintro rfl; have := h.alpha; revert this; decide

theorem numbered_not_result (n : Nat) {w : Str} (h : SanWord w) : isResultWord (natStr n ++ '.' :: w) = false :=
  isResultWord_of_alpha (by rw [List.any_append, List.any_cons, h.alpha]; simp)

theorem stripNumber_numbered (n : Nat) (w : Str) : stripNumber (natStr n ++ '.' :: w) = w := by
  unfold stripNumber
  have h1 : (natStr n ++ '.' :: w).dropWhile Char.isDigit = '.' :: w := by
    rw [List.dropWhile_append_of_pos (fun c hc => natStr_isDigit n c hc), List.dropWhile_cons, if_neg (by decide)]
  have h2 : (natStr n ++ '.' :: w).head?.any Char.isDigit = true := by
    cases hn : natStr n with
    | nil => exact absurd hn (natStr_ne_nil n)
    | cons d ds =>
      have : d.isDigit = true := natStr_isDigit n d (by rw [hn]; simp)
      simp [this]
  simp only [h1, h2, if_true]

theorem stripNumber_sanWord {w : Str} (h : SanWord w) : stripNumber w = w := by
  have hdot : '.' ∉ w := h.not_mem '.' (by decide)
  unfold stripNumber
  simp only []
  split
  · rename_i r heq                  -- a dot behind the leading digits: a SAN word has none
    have hc : '.' ∈ w := (List.dropWhile_sublist _).subset (by rw [heq]; simp)
    exact absurd hc hdot
  · rfl

theorem scanMoves_eq (t : Str) :
    scanMoves t = (((wordsOf t).filter (fun w => !isResultWord w)).map stripNumber).filter
      (fun w => !w.isEmpty && w != "...".toList) := rfl

theorem scanMoves_additive : Additive scanMoves :=
  wordsOf_additive.comp (fun ws => ((ws.filter (fun w => !isResultWord w)).map stripNumber).filter
    (fun (w : Str) => !w.isEmpty && w != "...".toList)) rfl (fun a b => by simp)

theorem numbered_isWord (n : Nat) {s : Str} (h : SanWord s) : IsWord (natStr n ++ '.' :: s) := by
  exact ⟨by simp, natStr_dot_not_mem n rfl (by decide) h.isWord.2.1, natStr_dot_not_mem n rfl (by decide) h.isWord.2.2⟩

theorem scanMoves_sanWord {s : Str} (h : SanWord s) : scanMoves s = [s] ∧ ∀ n, scanMoves (natStr n ++ '.' :: s) = [s] := by
  have e : s ≠ [] ∧ s ≠ "...".toList := ⟨h.ne_nil, h.ne_dots⟩
  refine ⟨?_, fun n => ?_⟩
  · rw [scanMoves_eq, wordsOf_word s h.isWord]
    simpa [h.not_result, stripNumber_sanWord h] using e
  · rw [scanMoves_eq, wordsOf_word _ (numbered_isWord n h)]
    simpa [numbered_not_result n h, stripNumber_numbered] using e

theorem scanMoves_resultWord {res : Str} (hres : IsWord res) (hr : isResultWord res = true) : scanMoves res = [] := by
  rw [scanMoves_eq, wordsOf_word res hres]
  simp [hr]

theorem scanMoves_section (w : Nat) (bs : Bool) (sans : List Str) (hs : ∀ s ∈ sans, SanWord s) (res : Str)
    (hres : IsWord res) (hr : isResultWord res = true) :
    scanMoves (joinWith ['\n'] (wrapWords w (expectedTokens bs sans)) ++ ' ' :: res) = sans := by
  rw [scanMoves_additive.moveSection w bs sans res (by decide) (by decide)
      (fun s h n => ((scanMoves_sanWord (hs s h)).2 n).trans (scanMoves_sanWord (hs s h)).1.symm),
    scanMoves_resultWord hres hr, List.append_nil]
  exact flatMap_singleton_self _ _ fun s h => (scanMoves_sanWord (hs s h)).1

/-- the decisive or drawn result words of a text; the first of them is what `scanResult` finds -/
def decidedWords (t : Str) : List Str :=
  (wordsOf t).filter fun w => w = "1-0".toList || w = "0-1".toList || w = "1/2-1/2".toList

theorem scanResult_eq_head (t : Str) : scanResult t = (decidedWords t).head? :=
  List.head?_filter.symm

theorem decidedWords_additive : Additive decidedWords :=
  wordsOf_additive.comp (List.filter _) rfl (fun a b => by simp)

theorem decidedWords_word {w : Str} (hw : IsWord w) (hr : isResultWord w = false) : decidedWords w = [] := by
  rw [decidedWords, wordsOf_word w hw, List.filter_cons_of_neg, List.filter_nil]
  intro hd
  -- the three words are the first three of the five of `isResultWord`
  have : isResultWord w = true := by
    unfold isResultWord
    simp only [Bool.or_eq_true] at hd ⊢
    rcases hd with (hd | hd) | hd
    · exact .inl (.inl (.inl (.inl hd)))
    · exact .inl (.inl (.inl (.inr hd)))
    · exact .inl (.inl (.inr hd))
  rw [hr] at this
  cases this

theorem decidedWords_section (w : Nat) (bs : Bool) (sans : List Str) (hs : ∀ s ∈ sans, SanWord s) (res : Str) :
    decidedWords (joinWith ['\n'] (wrapWords w (expectedTokens bs sans)) ++ ' ' :: res) = decidedWords res := by
  rw [decidedWords_additive.moveSection w bs sans res (by decide) (by decide)
      (fun s h n => (decidedWords_word (numbered_isWord n (hs s h)) (numbered_not_result n (hs s h))).trans
        (decidedWords_word (hs s h).isWord (hs s h).not_result).symm),
    List.flatMap_eq_nil_iff.2 (fun s h => decidedWords_word (hs s h).isWord (hs s h).not_result), List.nil_append]

end Chess

import Chess.Lemmas.ChecksSpec
/-! Status (C04).  `is_theoretical_draw_on_board` branches on the number of men of a side (`popcount` of its colour mask),
`Spec.cannotMate` on the list of its non-king men; with exactly one king per side the first number is the second plus one, and
the "has a knight or bishop" mask test asks whether a minor piece is among the non-kings. -/
namespace Chess
open Board

theorem Rep.popcount_colors {b : Board} {f} (h : Rep b f) (c : Color) :
    popcount (b.colors c) = (Spec.menOf f c).length := by
  rw [popcount_eq_countP, menOf_eq, List.length_filterMap_eq_countP]
  apply List.countP_congr
  intro s _
  rw [h.cls]; unfold manAt
  cases f s with
  | none => rfl
  | some q => cases hq : (q.c == c) <;> simp [hq]

theorem nonKing_length {f : Sq → Option Piece} {c : Color} (hk : Spec.countPiece f ⟨.king, c⟩ = 1) :
    ((Spec.menOf f c).filter (fun q => q.pt != .king)).length + 1 = (Spec.menOf f c).length := by
  -- the men split into non-kings and kings; counting the kings among the men is counting the king squares
  rw [List.length_eq_countP_add_countP (fun q => q.pt != .king) (l := Spec.menOf f c), ← List.countP_eq_length_filter,
    Nat.add_left_cancel_iff, ← hk, Spec.countPiece, menOf_eq, List.countP_filterMap]
  apply List.countP_congr
  intro s _
  simp only [manAt]
  rcases f s with _ | ⟨t, d⟩
  · rfl
  · by_cases hd : d = c <;> cases t <;> simp [hd]

theorem Rep.popcount_colors_pos {b : Board} {f} (h : Rep b f) {c : Color}
    (hk : Spec.countPiece f ⟨.king, c⟩ = 1) : popcount (b.colors c) ≥ 1 := by
  rw [h.popcount_colors]; have := nonKing_length hk; omega

theorem Rep.minor_any {b : Board} {f} (h : Rep b f) (c : Color) :
    (!isBlank (b.colors c &&& (b.pieces .knight ||| b.pieces .bishop))) =
      ((Spec.menOf f c).filter fun q => q.pt != .king).any fun q => q.pt == .bishop || q.pt == .knight := by
  have hm : ∀ s, mem s (b.colors c &&& (b.pieces .knight ||| b.pieces .bishop)) =
      (f s == some ⟨.knight, c⟩ || f s == some ⟨.bishop, c⟩) := by
    intro s
    rw [← h.mem_man, ← h.mem_man]
    simp only [mem_and, mem_or]
    cases mem s (b.colors c) <;> simp
  rw [Bool.eq_iff_iff]
  simp only [isBlank_eq_not_any, Bool.not_not, List.any_eq_true, hm, Bool.or_eq_true, beq_iff_eq, mem_allSq, true_and,
    List.mem_filter, mem_menOf, bne_iff_ne]
  show (∃ s, f s = some ⟨.knight, c⟩ ∨ f s = some ⟨.bishop, c⟩) ↔
    ∃ q : Piece, (((∃ s, f s = some q) ∧ q.c = c) ∧ q.pt ≠ .king) ∧ (q.pt = .bishop ∨ q.pt = .knight)
  constructor
  · rintro ⟨s, hs | hs⟩
    · exact ⟨_, ⟨⟨⟨s, hs⟩, rfl⟩, by simp⟩, Or.inr rfl⟩
    · exact ⟨_, ⟨⟨⟨s, hs⟩, rfl⟩, by simp⟩, Or.inl rfl⟩
  · rintro ⟨⟨t, d⟩, ⟨⟨⟨s, hs⟩, rfl⟩, _⟩, rfl | rfl⟩
    · exact ⟨s, Or.inr hs⟩
    · exact ⟨s, Or.inl hs⟩

theorem isTheoreticalDraw_spec {b : Board} {f} (h : Rep b f)
    (hkw : Spec.countPiece f ⟨.king, .white⟩ = 1) (hkb : Spec.countPiece f ⟨.king, .black⟩ = 1) :
    b.isTheoreticalDraw = (Spec.cannotMate f .white && Spec.cannotMate f .black) := by
  simp only [isTheoreticalDraw, cannotMate_eq, h.popcount_colors, ← nonKing_length hkw, ← nonKing_length hkb, h.minor_any]
  -- the two case distinctions run in step
  generalize ((Spec.menOf f .white).filter fun q => q.pt != .king).length = n
  generalize ((Spec.menOf f .black).filter fun q => q.pt != .king).length = m
  rcases n with _ | _ | n <;> rcases m with _ | _ | m <;> simp

/-- the two `unreachable!()` arms of `is_theoretical_draw_on_board` (a side without men) are dead -/
theorem panicsTheoreticalDraw_false {b : Board} {f} (h : Rep b f)
    (hkw : Spec.countPiece f ⟨.king, .white⟩ = 1) (hkb : Spec.countPiece f ⟨.king, .black⟩ = 1) :
    b.panicsTheoreticalDraw = false := by
  have hw := h.popcount_colors_pos hkw
  have hb := h.popcount_colors_pos hkb
  simp only [panicsTheoreticalDraw]
  have e1 : (popcount (b.colors .white) == 0) = false := by simp; omega
  have e2 : (popcount (b.colors .black) == 0) = false := by simp; omega
  rw [e1, e2]; simp

/-! non-vacuity: the hypotheses of `isTheoreticalDraw_spec` hold of the board with just the two kings on e1, e8 -/
example (K : Keys) : ∃ (b : Board) (f : Sq → Option Piece), Rep b f ∧
    Spec.countPiece f ⟨.king, .white⟩ = 1 ∧ Spec.countPiece f ⟨.king, .black⟩ = 1 ∧ b.isTheoreticalDraw = true := by
  have h2 := ((rep_new.putPiece K ⟨.king, .white⟩ 4).putPiece K ⟨.king, .black⟩ 60)
  have hkw : Spec.countPiece (Spec.upd (Spec.upd (fun _ => none) 4 (some ⟨.king, .white⟩)) 60 (some ⟨.king, .black⟩))
      ⟨.king, .white⟩ = 1 := by decide +kernel
  have hkb : Spec.countPiece (Spec.upd (Spec.upd (fun _ => none) 4 (some ⟨.king, .white⟩)) 60 (some ⟨.king, .black⟩))
      ⟨.king, .black⟩ = 1 := by decide +kernel
  refine ⟨_, _, h2, hkw, hkb, ?_⟩
  rw [isTheoreticalDraw_spec h2 hkw hkb]
  decide +kernel

def statusToSpec : Board.Status → Spec.Status
  | .ongoing => .ongoing
  | .checkmated c => .checkmated c
  | .theoreticalDraw => .insufficient
  | .fiftyMoves => .fifty
  | .stalemate => .stalemate

theorem getStatus_spec {K : Keys} {b : Board} (hv : b.Valid K)
    (hterm : b.term = (Spec.legalMoves b.absPos).isEmpty) :
    statusToSpec b.getStatus = Spec.status b.absPos := by
  have hdraw : b.isTheoreticalDraw =
      (Spec.cannotMate b.absPos.board .white && Spec.cannotMate b.absPos.board .black) :=
    isTheoreticalDraw_spec hv.cons (validPos_king hv.pos .white) (validPos_king hv.pos .black)
  have hstm : b.absPos.stm = b.stm := rfl
  have hhalf : b.absPos.half = b.half := rfl
  unfold getStatus Spec.status
  rw [← hterm, ← hdraw, ← hv.inCheck_eq, hstm, hhalf]
  simp only [popcount_pos_iff, apply_ite statusToSpec]
  rfl  -- both sides are the same chain of `if`s

end Chess

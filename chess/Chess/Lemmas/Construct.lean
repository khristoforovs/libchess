import Chess.Lemmas.MakeMove
import Chess.Lemmas.ChecksSpec
/-! Lemmas for C09.  `validate` is written as a chain of named tests, each tied to one conjunct of `Spec.ValidPos` for masks that
encode a placement; the stages of `try_from` are stated about a variable board; the tail that `try_from` shares with
`make_move_mut_unchecked` establishes `Board.Valid`: what it recomputes reads only the masks, the side to move, the rights and
the en-passant square (`SameCore`). -/
namespace Chess
open Board
variable (K : Keys)

namespace Construct

/-- one step of the builder loop -/
def putStep (pcs : Sq → Option Piece) (b : Board) (sq : Sq) : Board :=
  match pcs sq with | some p => b.putPiece K p sq | none => b

theorem putStep_rep (pcs : Sq → Option Piece) {b : Board} {f} (h : Rep b f) (x : Sq) (hx : pcs x = none → f x = none) :
    Rep (putStep K pcs b x) (Spec.upd f x (pcs x)) := by
  unfold putStep
  cases hp : pcs x with
  | none => rw [show Spec.upd f x none = f from hx hp ▸ Spec.upd_self f x]; exact h
  | some p => exact h.putPiece K p x

/-- squares already processed hold the builder's content, the others keep theirs -/
theorem foldPut_rep (pcs : Sq → Option Piece) (l : List Sq) (b : Board) (f : Sq → Option Piece)
    (h : Rep b f) (hf : ∀ s ∈ l, pcs s = none → f s = none) :
    Rep (l.foldl (putStep K pcs) b) (fun s => if s ∈ l then pcs s else f s) := by
  induction l generalizing b f with
  | nil => simpa using h
  | cons x xs ih =>
    have h2 := ih _ _ (putStep_rep K pcs h x (hf x (by simp))) (fun s hs hp => by
      simp only [Spec.upd]
      split
      · next e => exact e ▸ hp
      · exact hf s (by simp [hs]) hp)
    have e : (fun s => if s ∈ xs then pcs s else Spec.upd f x (pcs x) s) =
        (fun s => if s ∈ x :: xs then pcs s else f s) := by
      funext s
      by_cases hs : s ∈ xs
      · simp [hs]
      · by_cases hx : s = x
        · subst hx; simp [hs, Spec.upd]
        · simp [hs, hx, Spec.upd]
    exact e ▸ h2

/-- the board after the placement loop of `TryFrom<&BoardBuilder>` -/
def b0 (bb : Builder) : Board := allSq.foldl (putStep K bb.pieces) Board.new

theorem b0_rep (bb : Builder) : Rep (b0 K bb) bb.pieces := by
  have h := foldPut_rep K bb.pieces allSq Board.new (fun _ => none) rep_new (fun _ _ _ => rfl)
  simp only [mem_allSq, if_true] at h
  exact h

def typeOverlap (b : Board) : Bool :=
  PT.all.any (fun t => PT.all.any fun u => decide (t.idx < u.idx) && !isBlank (b.pieces t &&& b.pieces u))
def unionPieces (b : Board) : BB := PT.all.foldl (fun acc t => acc ||| b.pieces t) 0#64
def flipped (b : Board) : Board := { b with stm := b.stm.other }
def epBad (b : Board) : Bool :=
  match b.ep with
  | none => false
  | some sq =>
    let opp := b.stm.other
    let epRank : Nat := match opp with | .white => 2 | .black => 5
    let pawnSq := mkSq? (sq.rank + Board.fwd opp) sq.file
    let origSq := mkSq? (sq.rank - Board.fwd opp) sq.file
    match pawnSq, origSq with
    | some p, some o =>
      !(sq.rk == epRank && b.isEmptySq sq && b.isEmptySq o &&
        !isBlank (b.pieces .pawn &&& b.colors opp &&& bbOf p))
    | _, _ => true
def rightsMask (c : Color) : CR → BB
  | .neither => 0#64 | .queenSide => bbOf (homeSq c 0) | .kingSide => bbOf (homeSq c 7)
  | .both => bbOf (homeSq c 0) ||| bbOf (homeSq c 7)
def rightsBad (b : Board) (c : Color) : Bool :=
  if b.kingSq c = homeSq c 4 then
    popcount (b.pieces .rook &&& b.colors c &&& rightsMask c (b.rights c)) != popcount (rightsMask c (b.rights c))
  else b.rights c != .neither

theorem validate_eq (b : Board) : b.validate =
    if !isBlank (b.colors .white &&& b.colors .black) then some .colorsOverlap else
    if typeOverlap b then some .typeOverlap else
    if unionPieces b != b.combined then some .selfNonConsistency else
    if popcount (b.pieces .king &&& b.colors .white) != 1 then some .multipleKings else
    if popcount (b.pieces .king &&& b.colors .black) != 1 then some .multipleKings else
    if popcount (flipped b).updatePinsAndChecks.checks > 0 then some .opponentInCheck else
    if epBad b then some .inconsistentEnPassant else
    if rightsBad b .white then some .inconsistentCastling else
    if rightsBad b .black then some .inconsistentCastling else none := by
  rfl

/-- one link of the chain of tests in `validate_eq` -/
theorem ite_some_eq_none {α} {c : Prop} [Decidable c] {e : α} {x : Option α} :
    (if c then some e else x) = none ↔ ¬ c ∧ x = none := by split <;> simp [*]

theorem typeOverlap_false {b : Board} {f} (h : Rep b f) : typeOverlap b = false := by
  rw [Bool.eq_false_iff]
  intro ht
  simp only [typeOverlap, List.any_eq_true, Bool.and_eq_true, decide_eq_true_eq, Bool.not_eq_true'] at ht
  obtain ⟨t, _, u, _, hlt, hb⟩ := ht
  have hne : t ≠ u := by rintro rfl; exact Nat.lt_irrefl _ hlt
  rw [h.pieces_disjoint t u hne] at hb
  exact Bool.noConfusion hb

theorem unionPieces_eq {b : Board} {f} (h : Rep b f) : unionPieces b = b.combined := by
  apply bb_ext
  intro s
  simp only [unionPieces, PT.all, List.foldl_cons, List.foldl_nil, mem_or, mem_zero, h.pcs, h.cmb]
  rcases f s with _ | ⟨pt, c⟩
  · rfl
  · cases pt <;> rfl

theorem flipped_rep {b : Board} {f} (h : Rep b f) : Rep (flipped b) f := h.of_masks rfl rfl rfl

theorem oppCheck_iff {b : Board} {f} (h : Rep b f) {k : Sq} (hk : Spec.kingSq? f b.stm.other = some k) :
    popcount (flipped b).updatePinsAndChecks.checks > 0 ↔ Spec.inCheck f b.stm.other = true := by
  -- the copy has the opponent to move: its check mask is taken at the opponent's king `k`, the attackers being `b.stm`'s men
  have hks : (flipped b).kingSq b.stm.other = k := kingSq_spec (flipped_rep h) b.stm.other k hk
  have hchecks : (flipped b).updatePinsAndChecks.checks = ((flipped b).pinsAndChecks k).2 := by
    rw [← hks]; rfl
  have hatt : (flipped b).isUnderAttack k = Spec.attackedBy f b.stm.other.other k := isUnderAttack_spec (flipped_rep h) k
  rw [hchecks, popcount_pos_iff, Spec.inCheck, hk]
  dsimp only
  rw [← hatt, Board.isUnderAttack]

theorem epBad_absPos {b : Board} (h : b.Cons) : epBad b = !Spec.epOk b.absPos := by
  unfold epBad Spec.epOk Board.absPos
  simp only []
  cases he : b.ep with
  | none => rfl
  | some e =>
    simp only [fwd_eq]
    have hr : (e.rk == (match b.stm.other with | .white => 2 | .black => 5 : Nat)) =
        (e.rank == (if b.stm == .white then 5 else 2 : Int)) := by
      cases b.stm
      · exact (rank_beq_rk e 5).symm
      · exact (rank_beq_rk e 2).symm
    rcases hp : mkSq? (e.rank + Spec.fwd b.stm.other) e.file with _ | p
    · rcases ho : mkSq? (e.rank - Spec.fwd b.stm.other) e.file with _ | o <;> simp
    · rcases ho : mkSq? (e.rank - Spec.fwd b.stm.other) e.file with _ | o
      · simp
      · simp only [hr, h.isEmptySq, isBlank_and_bbOf, h.mem_man, Bool.not_not]
        -- the negated conjunction of the same four tests on either side; `validate` takes the origin square before the
        -- pawn's, `epOk` after it
        generalize (e.rank == (if b.stm == Color.white then 5 else 2 : Int)) = A
        generalize (b.abs e).isNone = B
        generalize (b.abs o).isNone = C
        generalize (b.abs p == some ⟨.pawn, b.stm.other⟩) = D
        cases A <;> cases B <;> cases C <;> cases D <;> rfl

theorem kingSq_eq_iff {b : Board} {f} (h : Rep b f) {c : Color} (hk : Spec.countPiece f ⟨.king, c⟩ = 1) (x : Sq) :
    b.kingSq c = x ↔ f x = some ⟨.king, c⟩ := by
  obtain ⟨_, hkk, hu⟩ := h.theKing hk
  exact ⟨fun e => e ▸ hkk, fun hx => (hu x hx).symm⟩

theorem rightsBad_absPos {b : Board} (h : b.Cons) (c : Color) (hk : Spec.countPiece b.abs ⟨.king, c⟩ = 1) :
    rightsBad b c = false ↔ Spec.rightsOk b.absPos c = true := by
  rw [rightsOk_iff, ← homeSq_eq c 4 (by decide), ← homeSq_eq c 7 (by decide), ← homeSq_eq c 0 (by decide)]
  unfold rightsBad Board.absPos
  simp only []
  by_cases hking : b.kingSq c = homeSq c 4
  · rw [if_pos hking]
    have hf4 : b.abs (homeSq c 4) = some ⟨.king, c⟩ := (kingSq_eq_iff h hk _).1 hking
    rw [bne_eq_false_iff_eq, popcount_and_eq_iff]
    simp only [h.mem_man, hf4]
    -- `simp` settles all cases but `.both`, where the mask lists the queen-side corner first, `rightsOk` the king-side one
    cases hr : b.rights c <;>
      simp [rightsMask, CR.toRights, CR.hasK, CR.hasQ]
    exact And.comm
  · rw [if_neg hking]
    have hf4 : ¬ b.abs (homeSq c 4) = some ⟨.king, c⟩ := fun hx => hking ((kingSq_eq_iff h hk _).2 hx)
    cases hr : b.rights c <;> simp [CR.toRights, CR.hasK, CR.hasQ, hf4]

end Construct

/-- the fields from which every derived field is recomputed -/
structure SameCore (a b : Board) : Prop where
  pieces : a.pieces = b.pieces
  colors : a.colors = b.colors
  combined : a.combined = b.combined
  stm : a.stm = b.stm
  rights : a.rights = b.rights
  ep : a.ep = b.ep

theorem SameCore.eq {a b : Board} (h : SameCore a b) :
    a = { b with pinned := a.pinned, checks := a.checks, term := a.term, half := a.half, full := a.full,
                 hash := a.hash } :=
  Board.ext' h.pieces h.colors h.combined h.stm h.rights h.ep rfl rfl rfl rfl rfl rfl

theorem SameCore.pinsAndChecks {a b : Board} (h : SameCore a b) :
    a.pinsAndChecks (a.kingSq a.stm) = b.pinsAndChecks (b.kingSq b.stm) := by
  -- with `a` written as `b` but for the six derived fields, both sides unfold to the same term: none of those is read
  rw [h.eq]
  rfl

theorem SameCore.of_absPos {a b : Board} (ha : a.Cons) (hb : b.Cons) (h : a.absPos = b.absPos) : SameCore a b := by
  have hbd : a.abs = b.abs := congrArg Spec.Pos.board h
  obtain ⟨h1, h2, h3⟩ := Rep.masks_unique (hbd ▸ ha : Rep a b.abs) hb
  exact ⟨h1, h2, h3, congrArg Spec.Pos.stm h,
    funext fun c => CR.toRights_inj (congrFun (congrArg Spec.Pos.rights h) c), congrArg Spec.Pos.ep h⟩

namespace SameCore
variable {a b : Board} (h : SameCore a b)
include h

theorem calcHash : a.calcHash K = b.calcHash K := by
  rw [h.eq]
  rfl

theorem getPieceOn (s : Sq) : a.getPieceOn s = b.getPieceOn s := by
  rw [h.eq]
  rfl

theorem getPieceColorOn (s : Sq) : a.getPieceColorOn s = b.getPieceColorOn s := by
  rw [h.eq]
  rfl

theorem isEmptySq (s : Sq) : a.isEmptySq s = b.isEmptySq s := by
  rw [h.eq]
  rfl

theorem pieceMovesMask (pt : PT) (s : Sq) : a.pieceMovesMask pt s = b.pieceMovesMask pt s := by
  rw [h.eq]
  rfl

/-! The placement primitives return boards: for them "reads the core only" is a congruence.  (The hash they store does depend
on the hash they find, which no recomputed field reads.) -/

theorem clearSquare (s : Sq) : SameCore (a.clearSquare K s) (b.clearSquare K s) := by
  unfold Board.clearSquare
  rw [h.getPieceOn]
  cases b.getPieceOn s with
  | none => exact h
  | some p => exact ⟨by rw [h.pieces], by rw [h.colors], by rw [h.combined], h.stm, h.rights, h.ep⟩

theorem putPiece (p : Piece) (s : Sq) : SameCore (a.putPiece K p s) (b.putPiece K p s) := by
  have h' : SameCore (if !a.isEmptySq s then a.clearSquare K s else a) (if !b.isEmptySq s then b.clearSquare K s else b) := by
    rw [h.isEmptySq]
    split
    · exact h.clearSquare K s
    · exact h
  unfold Board.putPiece
  exact ⟨by simp only [h'.pieces], by simp only [h'.colors], by simp only [h'.combined], h'.stm, h'.rights, h'.ep⟩

theorem movePiece (pt : PT) (src dst : Sq) (promo : Option PT) :
    SameCore (a.movePiece K pt src dst promo) (b.movePiece K pt src dst promo) := by
  unfold Board.movePiece
  rw [h.getPieceColorOn]
  cases b.getPieceColorOn src with
  | none => exact h
  | some c => exact (h.clearSquare K src).putPiece K _ dst

theorem clearIfEp (pt : PT) (dst : Sq) : SameCore (a.clearIfEp K pt dst) (b.clearIfEp K pt dst) := by
  unfold Board.clearIfEp
  rw [isEpMove_eq, isEpMove_eq, h.ep, h.stm]
  split
  · cases epVictim b.stm dst with
    | none => exact h
    | some v => exact h.clearSquare K v
  · exact h

theorem checkMaskAfter (pt : PT) (src dst : Sq) (promo : Option PT) :
    a.checkMaskAfter K pt src dst promo = b.checkMaskAfter K pt src dst promo :=
  congrArg Prod.snd ((h.movePiece K pt src dst promo).clearIfEp K pt dst).pinsAndChecks

theorem hasEscape : a.hasEscape K = b.hasEscape K := by
  unfold Board.hasEscape
  simp only [h.colors, h.stm, h.pieces, h.pieceMovesMask, h.checkMaskAfter K]

end SameCore

namespace Construct

/-! ### the terminal flag is not read by `update_terminal_status` -/

def setTerm (b : Board) (t : Bool) : Board := { b with term := t }

theorem setTerm_core (b : Board) (t : Bool) : SameCore (setTerm b t) b := ⟨rfl, rfl, rfl, rfl, rfl, rfl⟩

theorem updateTerminalStatus_term (b : Board) :
    (b.updateTerminalStatus K).term = !(b.updateTerminalStatus K).hasEscape K :=
  congrArg (!·) ((setTerm_core b _).hasEscape K).symm

/-! ### the stages of `TryFrom<&BoardBuilder>`

Facts about a stage are stated for a variable board and carried over by `trans`/`rw`: a `rfl` or `exact` between two of the
closed terms `b0 … b3` makes the unifier evaluate the 64-step placement fold inside `b0`. -/

def b1 (bb : Builder) : Board :=
  ((((b0 K bb).setSideToMove K bb.stm).setEnPassant K bb.ep).setCastlingRights K .white (bb.rights .white)
    ).setCastlingRights K .black (bb.rights .black)
def b2 (bb : Builder) : Board := ({ b1 K bb with full := bb.full, half := bb.half } : Board).updatePinsAndChecks
def b3 (bb : Builder) : Board := { b2 K bb with hash := (b2 K bb).calcHash K }

theorem ofBuilder_eq (bb : Builder) : Board.ofBuilder K bb =
    if popcount ((b0 K bb).pieces .king &&& (b0 K bb).colors .white) != 1 then .error .multipleKings else
    if popcount ((b0 K bb).pieces .king &&& (b0 K bb).colors .black) != 1 then .error .multipleKings else
    match (b3 K bb).validate with
    | none => .ok ((b3 K bb).updateTerminalStatus K)
    | some e => .error e := rfl

/-- the board on which `try_from` runs `update_pins_and_checks` -/
theorem b1_rep (bb : Builder) : Rep { b1 K bb with full := bb.full, half := bb.half } bb.pieces := by
  have h := b0_rep K bb
  simp only [b1, setSideToMove_eq, setEnPassant_eq, setCastlingRights_eq]
  exact h.of_masks rfl rfl rfl

theorem b1_absPos (bb : Builder) : ({ b1 K bb with full := bb.full, half := bb.half } : Board).absPos = bb.toPos := by
  unfold Board.absPos Builder.toPos
  rw [(b1_rep K bb).abs_eq]
  simp only [b1, setSideToMove_eq, setEnPassant_eq, setCastlingRights_eq, Spec.Pos.mk.injEq, true_and, and_true]
  funext c
  cases c <;> simp [setFn]

theorem absPos_caches (b : Board) (x : BB) : ({ b.updatePinsAndChecks with hash := x } : Board).absPos = b.absPos := rfl
theorem absPos_updateTerminalStatus (b : Board) : (b.updateTerminalStatus K).absPos = b.absPos := rfl
theorem calcHash_updatePinsAndChecks (b : Board) : b.updatePinsAndChecks.calcHash K = b.calcHash K := rfl

theorem b3_rep (bb : Builder) : Rep (b3 K bb) bb.pieces := (b1_rep K bb).of_masks rfl rfl rfl

theorem b3_absPos (bb : Builder) : (b3 K bb).absPos = bb.toPos := (absPos_caches _ _).trans (b1_absPos K bb)

end Construct

open Construct in
theorem b2_rep (bb : Builder) : Rep (b2 K bb) bb.pieces :=
  (b1_rep K bb).of_masks rfl rfl rfl

/-- recomputing the check and pin masks, storing a hash and setting the terminal flag leaves all three caches up to date:
on masks that encode a valid position the result is `Valid` as soon as the stored hash is the recomputed one -/
theorem Board.Valid.of_tail {b : Board} (hc : b.Cons) (hp : Spec.ValidPos b.absPos = true) {x : BB}
    (hx : x = b.calcHash K) :
    (({ b.updatePinsAndChecks with hash := x } : Board).updateTerminalStatus K).Valid K :=
  ⟨Rep.cons (Rep.of_masks hc rfl rfl rfl), hp, rfl, rfl, Construct.updateTerminalStatus_term K _, hx⟩

section
open Construct

theorem setTerm_self (b : Board) : setTerm b b.term = b := rfl

/-- a `Valid` board is determined by the position it stands for: every other field is recomputed from it -/
theorem Board.Valid.eq_of_absPos {a b : Board} (ha : a.Valid K) (hb : b.Valid K) (h : a.absPos = b.absPos) : a = b := by
  have hcore := SameCore.of_absPos ha.cons hb.cons h
  have hpc := hcore.pinsAndChecks
  exact Board.ext' hcore.pieces hcore.colors hcore.combined hcore.stm hcore.rights hcore.ep
    (by rw [ha.pinned_eq, hpc, ← hb.pinned_eq]) (by rw [ha.checks_eq, hpc, ← hb.checks_eq])
    (by rw [ha.term_eq, hcore.hasEscape K, ← hb.term_eq])
    (congrArg Spec.Pos.half h) (congrArg Spec.Pos.full h) (by rw [ha.hash_eq, hcore.calcHash K, ← hb.hash_eq])

end

end Chess

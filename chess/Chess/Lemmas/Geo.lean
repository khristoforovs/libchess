import Chess.Spec.Rules
/-! `strictlyBetween` is the only definition of the rules that multiplies coordinates.  `sbCore_iff` removes the products once;
after it every geometric fact about squares is linear in ranks and files and `omega` decides it. -/
namespace Chess
open Spec

theorem mkSq?_eq_some_iff {r f : Int} {s : Sq} : mkSq? r f = some s ↔ s.rank = r ∧ s.file = f := by
  have hs := s.isLt
  unfold mkSq?
  simp only [Sq.rank, Sq.file]
  split
  · rw [Option.some.injEq, Fin.ext_iff]
    simp only
    omega
  · simp only [reduceCtorEq, false_iff]
    omega

theorem sq_ext {a b : Sq} (hr : a.rank = b.rank) (hf : a.file = b.file) : a = b := by
  simp only [Sq.rank, Sq.file] at hr hf
  apply Fin.ext
  omega

theorem sq_eq_iff (a b : Sq) : a = b ↔ a.rank = b.rank ∧ a.file = b.file :=
  ⟨fun h => h ▸ ⟨rfl, rfl⟩, fun h => sq_ext h.1 h.2⟩

theorem sq_ne_iff (a b : Sq) : a ≠ b ↔ a.rank ≠ b.rank ∨ a.file ≠ b.file := by
  rw [ne_eq, sq_eq_iff, Decidable.not_and_iff_not_or_not]

theorem rank_beq_rk (s : Sq) (n : Nat) : (s.rank == (n : Int)) = (s.rk == n) := by
  rw [Bool.eq_iff_iff]; simp only [beq_iff_eq, Sq.rank, Sq.rk]; omega

/-- `strictlyBetween` as a function of the coordinate differences -/
def sbCore (ne : Bool) (dr df er ef : Int) : Bool :=
  (dr == 0 || df == 0 || dr.natAbs == df.natAbs) && ne &&
  (er * df == ef * dr) && (er * dr + ef * df > 0) && (er.natAbs + ef.natAbs < dr.natAbs + df.natAbs)
theorem strictlyBetween_eq (a c b : Sq) : strictlyBetween a c b =
    sbCore (a != b) (b.rank - a.rank) (b.file - a.file) (c.rank - a.rank) (c.file - a.file) := rfl

theorem int_mul_pos_iff (x d : Int) : 0 < x * d ↔ (0 < x ∧ 0 < d) ∨ (x < 0 ∧ d < 0) := by
  by_cases hx : x = 0
  · subst hx; simp
  by_cases hd : d = 0
  · subst hd; simp
  rcases Int.lt_or_gt_of_ne hx with hx | hx <;> rcases Int.lt_or_gt_of_ne hd with hd | hd
  · have := Int.mul_pos_of_neg_of_neg hx hd; omega
  · have := Int.mul_neg_of_neg_of_pos hx hd; omega
  · have := Int.mul_neg_of_pos_of_neg hx hd; omega
  · have := Int.mul_pos hx hd; omega

def btw (x d : Int) : Prop := (0 < x ∧ x < d) ∨ (d < x ∧ x < 0)

theorem btw_iff (x d : Int) : btw x d ↔ 0 < x * d ∧ x.natAbs < d.natAbs := by
  rw [int_mul_pos_iff, btw]; omega

/-- In each of the four cases the collinearity equation `er * df = ef * dr` cancels the common factor, and the other two
conjuncts say that the remaining coordinate lies strictly between `0` and the offset. -/
theorem sbCore_iff (ne : Bool) (p q x y : Int) : sbCore ne p q x y = true ↔
    ne = true ∧ ((q = 0 ∧ y = 0 ∧ btw x p) ∨ (p = 0 ∧ x = 0 ∧ btw y q) ∨
      (p = q ∧ x = y ∧ btw x p) ∨ (p = -q ∧ x = -y ∧ btw x p)) := by
  simp only [sbCore, btw_iff, Bool.and_eq_true, Bool.or_eq_true, beq_iff_eq, decide_eq_true_eq, gt_iff_lt]
  constructor
  · rintro ⟨⟨⟨⟨hl, hne⟩, he⟩, hp⟩, hs⟩
    refine ⟨hne, ?_⟩
    rcases hl with (rfl | rfl) | hl
    · simp only [Int.mul_zero] at he hp
      rcases Int.mul_eq_zero.1 he with rfl | rfl
      · omega
      · simp at hp
    · simp only [Int.mul_zero] at he hp
      rcases Int.mul_eq_zero.1 he.symm with rfl | rfl
      · omega
      · simp at hp
    · have hq : q ≠ 0 := by omega
      rcases Int.natAbs_eq_natAbs_iff.1 hl with rfl | rfl
      · rw [Int.mul_eq_mul_right_iff hq] at he
        subst he
        omega
      · rw [Int.mul_neg, ← Int.neg_mul, Int.mul_eq_mul_right_iff hq] at he
        subst he
        -- normalise `-y * -q` to `y * q`, the one product left, which `omega` takes as an atom
        simp only [Int.mul_neg, Int.neg_mul, Int.neg_neg, true_and] at *
        omega
  · rintro ⟨hne, ⟨rfl, rfl, h⟩ | ⟨rfl, rfl, h⟩ | ⟨rfl, rfl, h⟩ | ⟨rfl, rfl, h⟩⟩ <;>
      simp only [hne, Int.mul_zero, Int.zero_mul, Int.mul_neg, Int.neg_mul, Int.neg_neg, or_true, true_or, and_true,
        true_and] at h ⊢ <;>
      omega

theorem strictlyBetween_iff (a c b : Sq) : strictlyBetween a c b = true ↔
    (b.file - a.file = 0 ∧ c.file - a.file = 0 ∧ btw (c.rank - a.rank) (b.rank - a.rank)) ∨
    (b.rank - a.rank = 0 ∧ c.rank - a.rank = 0 ∧ btw (c.file - a.file) (b.file - a.file)) ∨
    (b.rank - a.rank = b.file - a.file ∧ c.rank - a.rank = c.file - a.file ∧ btw (c.rank - a.rank) (b.rank - a.rank)) ∨
    (b.rank - a.rank = -(b.file - a.file) ∧ c.rank - a.rank = -(c.file - a.file) ∧
      btw (c.rank - a.rank) (b.rank - a.rank)) := by
  rw [strictlyBetween_eq, sbCore_iff, bne_iff_ne, sq_ne_iff, and_iff_right_of_imp]
  -- `a ≠ b` is implied: something lies strictly between `0` and one of the offsets
  simp only [btw]
  omega

theorem strictlyBetween_self (a t : Sq) : strictlyBetween a t t = false := by
  rw [← Bool.not_eq_true, strictlyBetween_iff]
  simp only [btw]
  omega

theorem orthogonal_symm (a b : Sq) : orthogonal a b = orthogonal b a := by
  rw [Bool.eq_iff_iff]
  simp only [orthogonal, Bool.and_eq_true, Bool.or_eq_true, beq_iff_eq, bne_iff_ne, sq_ne_iff]
  omega
theorem diagonal_symm (a b : Sq) : diagonal a b = diagonal b a := by
  rw [Bool.eq_iff_iff]
  simp only [diagonal, Bool.and_eq_true, beq_iff_eq, bne_iff_ne, sq_ne_iff]
  omega

/-- seen from the far end of the line, the same offsets lie strictly between -/
theorem sbCore_flip (ne : Bool) (p q x y : Int) : sbCore ne (-p) (-q) (x - p) (y - q) = sbCore ne p q x y := by
  rw [Bool.eq_iff_iff, sbCore_iff, sbCore_iff]
  refine and_congr Iff.rfl (or_congr ?_ (or_congr ?_ (or_congr ?_ ?_))) <;>
    simp only [btw] <;>
    omega

theorem strictlyBetween_comm (a c b : Sq) : strictlyBetween a c b = strictlyBetween b c a := by
  rw [strictlyBetween_eq, strictlyBetween_eq b, bne_comm,
    ← sbCore_flip _ (b.rank - a.rank) (b.file - a.file) (c.rank - a.rank) (c.file - a.file)]
  congr 1 <;> omega

end Chess

import Chess.Model.Board
import Chess.Lemmas.BB
/-! Everything here holds for every `b : Board` (no validity hypothesis). -/
namespace Chess

/-- promotion field allowed by the generator: pawns reaching the promotion rank carry N/B/R/Q, everything else `none` -/
def promoShape (stm : Color) (pt : PT) (dst : Sq) (promo : Option PT) : Bool :=
  if pt == .pawn && dst.rk == Board.promoRank stm then
    (promo == some .knight || promo == some .bishop || promo == some .rook || promo == some .queen)
  else promo == none

/-- the promotion fields the generator attaches to a destination -/
def promoFields (stm : Color) (pt : PT) (dst : Sq) : List (Option PT) :=
  if pt == .pawn && dst.rk == Board.promoRank stm then [some .knight, some .bishop, some .rook, some .queen] else [none]

theorem mem_promoFields (stm : Color) (pt : PT) (dst : Sq) (promo : Option PT) :
    promo ∈ promoFields stm pt dst ↔ promoShape stm pt dst promo = true := by
  unfold promoFields promoShape
  split <;> simp [or_assoc]

theorem promoFields_nodup (stm : Color) (pt : PT) (dst : Sq) : (promoFields stm pt dst).Nodup := by
  unfold promoFields
  split <;> decide

theorem promoShape_none_iff (stm : Color) (pt : PT) (dst : Sq) :
    promoShape stm pt dst none = true ↔ ¬ (pt = .pawn ∧ dst.rk = Board.promoRank stm) := by
  unfold promoShape
  split <;> simp_all

/-- the generator's promotion rule, as the legality test spells it -/
theorem promoShape_iff (c : Color) (pt : PT) (dst : Sq) (promo : Option PT) :
    promoShape c pt dst promo = true ↔
      promo.isSome = (pt == .pawn && dst.rk == Board.promoRank c) ∧ promo ≠ some .king ∧ promo ≠ some .pawn := by
  unfold promoShape
  cases (pt == .pawn && dst.rk == Board.promoRank c) <;> cases promo with
  | none => simp
  | some t => cases t <;> simp

theorem promoShape_exists (c : Color) (pt : PT) (dst : Sq) : ∃ promo, promoShape c pt dst promo = true := by
  unfold promoShape
  cases (pt == .pawn && dst.rk == Board.promoRank c)
  · exact ⟨none, rfl⟩
  · exact ⟨some .queen, rfl⟩

theorem promoShape_facts {c : Color} {pt : PT} {dst : Sq} {promo : Option PT} (h : promoShape c pt dst promo = true) :
    promo ≠ some .king ∧ promo ≠ some .pawn ∧ (pt ≠ .pawn → promo = none) := by
  obtain ⟨h1, h2, h3⟩ := (promoShape_iff c pt dst promo).1 h
  refine ⟨h2, h3, fun hp => ?_⟩
  rw [show (pt == PT.pawn) = false by simpa using hp, Bool.false_and, Option.isSome_eq_false_iff,
    Option.isNone_iff_eq_none] at h1
  exact h1

/-! ### keys of a move: what `nodup_flatMap_of_key` tells the sublists apart by -/
def Move.ptKey : Move → PT | .piece pt _ _ _ => pt | .castle _ => .pawn
def Move.srcKey : Move → Sq | .piece _ s _ _ => s | .castle _ => 0
def Move.dstKey : Move → Sq | .piece _ _ d _ => d | .castle _ => 0

/-- the filter of `movesFrom` (the shortcut): full evaluation only when needed -/
def Board.passes (K : Keys) (b : Board) (pt : PT) (src dst : Sq) : Bool :=
  if b.needsFullCheck b.checks pt src dst then isBlank (b.checkMaskAfter K pt src dst none) else true

def Board.dests (K : Keys) (b : Board) (pt : PT) (sq : Sq) : List Sq :=
  (toList (b.pieceMovesMask pt sq)).filter fun d => b.passes K pt sq d

theorem Board.mem_dests (K) (b : Board) (pt : PT) (sq d : Sq) :
    d ∈ b.dests K pt sq ↔ mem d (b.pieceMovesMask pt sq) = true ∧ b.passes K pt sq d = true := by
  simp [Board.dests, List.mem_filter, mem_toList]

theorem Board.dests_nodup (K) (b : Board) (pt : PT) (sq : Sq) : (b.dests K pt sq).Nodup :=
  (toList_nodup _).filter _

theorem Board.movesFrom_eq (K) (b : Board) (pt : PT) (sq : Sq) :
    b.movesFrom K pt sq = (b.dests K pt sq).flatMap fun d => (promoFields b.stm pt d).map (.piece pt sq d) := by
  unfold Board.movesFrom promoFields
  cases hp : pt == PT.pawn
  · simp only [Bool.false_and, Bool.false_eq_true, if_false, List.map_eq_flatMap]
    rfl
  · rw [beq_iff_eq.1 hp]
    simp only [Bool.true_and, if_true]
    congr 1
    funext d
    split <;> rfl

theorem mem_movesFrom (K) (b : Board) (pt : PT) (sq : Sq) (m : Move) :
    m ∈ b.movesFrom K pt sq ↔ ∃ dst promo, m = .piece pt sq dst promo ∧ mem dst (b.pieceMovesMask pt sq) = true ∧
        b.passes K pt sq dst = true ∧ promoShape b.stm pt dst promo = true := by
  simp only [Board.movesFrom_eq, List.mem_flatMap, List.mem_map, Board.mem_dests, mem_promoFields]
  exact ⟨fun ⟨d, ⟨h1, h2⟩, pr, h3, e⟩ => ⟨d, pr, e.symm, h1, h2, h3⟩,
    fun ⟨d, pr, e, h1, h2, h3⟩ => ⟨d, ⟨h1, h2⟩, pr, h3, e.symm⟩⟩

theorem movesFrom_nodup (K) (b : Board) (pt : PT) (sq : Sq) : (b.movesFrom K pt sq).Nodup := by
  rw [Board.movesFrom_eq]
  refine nodup_flatMap_of_key _ _ Move.dstKey (Board.dests_nodup K b _ _) (fun d _ => ?_) ?_
  · -- `Move.piece pt sq d` is injective in the promotion field
    exact List.pairwise_map.2 ((promoFields_nodup _ _ _).imp fun hne e => hne (by cases e; rfl))
  · intro d _ x hx
    obtain ⟨pr, _, rfl⟩ := List.mem_map.1 hx
    rfl

theorem PT.all_nodup : PT.all.Nodup := by decide
theorem PT.mem_all (pt : PT) : pt ∈ PT.all := by cases pt <;> decide

def Board.pieceMoves (K : Keys) (b : Board) : List Move :=
  PT.all.flatMap fun pt => (toList (b.colors b.stm &&& b.pieces pt)).flatMap fun sq => b.movesFrom K pt sq

def castleMoves : CR → List Move
  | .queenSide => [.castle .queen]
  | .kingSide => [.castle .king]
  | .both => [.castle .king, .castle .queen]
  | .neither => []

theorem Board.getLegalMoves_eq (K) (b : Board) :
    b.getLegalMoves K = b.pieceMoves K ++ castleMoves (b.castlingAvailable (some b.checks)) := by
  unfold Board.getLegalMoves Board.pieceMoves
  cases b.castlingAvailable (some b.checks) <;> rfl

theorem Board.mem_pieceMoves (K) (b : Board) (m : Move) :
    m ∈ b.pieceMoves K ↔ ∃ pt src dst promo, m = .piece pt src dst promo ∧
      mem src (b.colors b.stm &&& b.pieces pt) = true ∧ mem dst (b.pieceMovesMask pt src) = true ∧
      b.passes K pt src dst = true ∧ promoShape b.stm pt dst promo = true := by
  simp only [Board.pieceMoves, List.mem_flatMap, mem_toList, mem_movesFrom, PT.mem_all, true_and]
  exact ⟨fun ⟨pt, src, hs, dst, promo, e, h⟩ => ⟨pt, src, dst, promo, e, hs, h⟩,
    fun ⟨pt, src, dst, promo, e, hs, h⟩ => ⟨pt, src, hs, dst, promo, e, h⟩⟩

theorem not_piece_mem_castleMoves (cr : CR) (pt : PT) (src dst : Sq) (promo : Option PT) :
    Move.piece pt src dst promo ∉ castleMoves cr := by
  cases cr <;> simp [castleMoves]

theorem castleMoves_nodup (cr : CR) : (castleMoves cr).Nodup := by
  cases cr <;> simp [castleMoves]

theorem mem_getLegalMoves (K) (b : Board) (m : Move) :
    m ∈ b.getLegalMoves K ↔
      match m with
      | .piece pt src dst promo => mem src (b.colors b.stm &&& b.pieces pt) = true ∧ mem dst (b.pieceMovesMask pt src) = true ∧
          b.passes K pt src dst = true ∧ promoShape b.stm pt dst promo = true
      | .castle .king => (b.castlingAvailable (some b.checks)).hasK = true
      | .castle .queen => (b.castlingAvailable (some b.checks)).hasQ = true := by
  rw [Board.getLegalMoves_eq, List.mem_append, Board.mem_pieceMoves]
  match m with
  | .piece pt src dst promo =>
    simp only [not_piece_mem_castleMoves, or_false]
    exact ⟨fun ⟨_, _, _, _, he, h⟩ => by cases he; exact h, fun h => ⟨_, _, _, _, rfl, h⟩⟩
  | .castle .king => cases b.castlingAvailable (some b.checks) <;> simp [castleMoves, CR.hasK]
  | .castle .queen => cases b.castlingAvailable (some b.checks) <;> simp [castleMoves, CR.hasQ]

theorem Board.pieceMoves_nodup (K) (b : Board) : (b.pieceMoves K).Nodup := by
  unfold Board.pieceMoves
  refine nodup_flatMap_of_key _ _ Move.ptKey PT.all_nodup ?_ ?_
  · intro pt _
    refine nodup_flatMap_of_key _ _ Move.srcKey (toList_nodup _) (fun sq _ => movesFrom_nodup K b pt sq) ?_
    intro sq _ x hx
    rw [mem_movesFrom] at hx
    obtain ⟨dst, promo, rfl, _⟩ := hx
    rfl
  · intro pt _ x hx
    rw [List.mem_flatMap] at hx
    obtain ⟨sq, _, hx⟩ := hx
    rw [mem_movesFrom] at hx
    obtain ⟨dst, promo, rfl, _⟩ := hx
    rfl

theorem getLegalMoves_nodup (K) (b : Board) : (b.getLegalMoves K).Nodup := by
  rw [Board.getLegalMoves_eq, List.nodup_append]
  refine ⟨Board.pieceMoves_nodup K b, castleMoves_nodup _, ?_⟩
  intro x hx y hy hxy
  rw [Board.mem_pieceMoves] at hx
  obtain ⟨pt, src, dst, promo, rfl, _⟩ := hx
  subst hxy
  exact not_piece_mem_castleMoves _ _ _ _ _ hy

end Chess

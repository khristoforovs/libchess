import Chess.Lemmas.ChecksSpec
import Chess.Lemmas.MakeMove
/-! Castling part of C01: `Board.castlingAvailable` names exactly the castling moves the rules allow
(`Spec.castleOk`), and an available castling implies a legal one-step king move. -/
namespace Chess
open Board

/-- `e`, `h` are the squares king and rook leave, `g`, `f` those they land on (`f` is the square the king crosses).  An enemy
man sees `g` after castling exactly as before: a line to `g` through `e` also passes `f` (`hef`), so the rook on `f` blocks
what the king on `e` blocked; no line to `g` passes the corner `h` (`hhg`); all other squares are unchanged. -/
theorem attackedBy_castled (P : Sq → Option Piece) (c : Color) (e h g f : Sq)
    (hPe : Spec.isColor P c.other e = false) (hPe' : (P e).isSome = true)
    (hPh : Spec.isColor P c.other h = false)
    (hPf : P f = none) (hPg : P g = none)
    (hhg : ∀ a, Spec.strictlyBetween a h g = false)
    (hef : ∀ a, a ≠ e → a ≠ f → Spec.strictlyBetween a e g = Spec.strictlyBetween a f g) :
    Spec.attackedBy (castled P c e h g f) c.other g = Spec.attackedBy P c.other g := by
  apply attackedBy_congr
  intro a
  -- on the four squares castling touches there is no enemy man, before or after
  by_cases af : a = f
  · subst af
    simp [castled_apply, Spec.isColor, hPf, Color.beq_other]
  by_cases ag : a = g
  · subst ag
    simp [castled_apply, Spec.isColor, hPg, Color.beq_other, af]
  by_cases ah : a = h
  · subst ah
    rw [hPh]
    simp [castled_apply, Spec.isColor, af, ag]
  by_cases ae : a = e
  · subst ae
    rw [hPe]
    simp [castled_apply, Spec.isColor, af, ag, ah]
  have hQa : castled P c e h g f a = P a := by simp [castled_apply, af, ag, ah, ae]
  have hcol : Spec.isColor (castled P c e h g f) c.other a = Spec.isColor P c.other a := by
    unfold Spec.isColor; rw [hQa]
  rw [hcol]
  cases Spec.isColor P c.other a with
  | false => rfl
  | true =>
    simp only [Bool.true_and]
    apply attacks_congr _ _ _ _ hQa
    cases hb : Spec.strictlyBetween a e g with
    | true =>
      have hb' : Spec.strictlyBetween a f g = true := by rw [← hef a ae af]; exact hb
      rw [clearBetween_false_of _ a g f hb' (by simp [castled_apply]),
          clearBetween_false_of _ a g e hb hPe']
    | false =>
      have hb' : Spec.strictlyBetween a f g = false := by rw [← hef a ae af]; exact hb
      apply clearBetween_congr
      intro x hx
      have xf : x ≠ f := by rintro rfl; rw [hb'] at hx; exact Bool.noConfusion hx
      have xe : x ≠ e := by rintro rfl; rw [hb] at hx; exact Bool.noConfusion hx
      have xh : x ≠ h := by rintro rfl; rw [hhg] at hx; exact Bool.noConfusion hx
      have xg : x ≠ g := by rintro rfl; rw [strictlyBetween_self] at hx; exact Bool.noConfusion hx
      simp [castled_apply, xf, xe, xh, xg]

theorem inCheck_castled (P : Sq → Option Piece) (c : Color) (e h g f : Sq)
    (hPe : P e = some ⟨.king, c⟩) (hu : ∀ s, P s = some ⟨.king, c⟩ → s = e)
    (hPh : Spec.isColor P c.other h = false)
    (hPf : P f = none) (hPg : P g = none) (hgf : g ≠ f)
    (hhg : ∀ a, Spec.strictlyBetween a h g = false)
    (hef : ∀ a, a ≠ e → a ≠ f → Spec.strictlyBetween a e g = Spec.strictlyBetween a f g) :
    Spec.inCheck (castled P c e h g f) c = Spec.attackedBy P c.other g := by
  have hk : Spec.kingSq? (castled P c e h g f) c = some g :=
    kingSq?_of_unique ((castled_king hu hgf g).2 rfl) fun s => (castled_king hu hgf s).1
  unfold Spec.inCheck
  rw [hk]
  exact attackedBy_castled P c e h g f (isColor_other_own c .king P e hPe) (by simp [hPe]) hPh hPf hPg hhg hef

/-- finite geometric facts (per colour and side, by kernel evaluation): the corner is never strictly between anything and the
king's destination, and the king's square lies on a line to the destination exactly when the crossed square does -/
theorem castle_geom (c : Color) (s : Side) :
    hsqS c (kingTo s) ≠ hsqS c (rookTo s) ∧
    (∀ a, Spec.strictlyBetween a (hsqS c (rookFrom s)) (hsqS c (kingTo s)) = false) ∧
    (∀ a, a ≠ hsqS c 4 → a ≠ hsqS c (rookTo s) →
      Spec.strictlyBetween a (hsqS c 4) (hsqS c (kingTo s)) = Spec.strictlyBetween a (hsqS c (rookTo s)) (hsqS c (kingTo s))) := by
  cases c <;> cases s <;> decide +kernel

/-- `Spec.castleOk` in the shape the code computes it -/
theorem castleOk_iff {p : Spec.Pos} (hv : Spec.ValidPos p = true) (s : Side) :
    Spec.castleOk p s =
      (!Spec.inCheck p.board p.stm && ((p.rights p.stm).has s &&
        (!Spec.attackedBy p.board p.stm.other (hsqS p.stm (rookTo s)) &&
         !Spec.attackedBy p.board p.stm.other (hsqS p.stm (kingTo s)) &&
         (pathFiles s).all fun k => (p.board (hsqS p.stm k)).isNone))) := by
  rw [castleOk_eq, applyBoard_castle]
  cases hr : (p.rights p.stm).has s with
  | false => simp
  | true =>
    obtain ⟨hK, hR⟩ := (rightsOk_iff_has p p.stm).1 (validPos_rightsOk hv p.stm) s hr
    rw [hK, hR]
    cases hp : (pathFiles s).all fun k => (p.board (hsqS p.stm k)).isNone with
    | false => simp
    | true =>
      rw [List.all_eq_true] at hp
      obtain ⟨g1, g2, g3⟩ := castle_geom p.stm s
      obtain ⟨k, _, hk, hu⟩ := validPos_theKing hv p.stm
      rw [inCheck_castled p.board p.stm _ _ _ _ hK (fun x hx => (hu x hx).trans (hu _ hK).symm)
        (isColor_other_own p.stm .rook p.board _ hR) (by simpa using hp _ (path_mem s).2) (by simpa using hp _ (path_mem s).1)
        g1 g2 g3]
      simp [Bool.and_assoc]

theorem CR.hasK_add (a b : CR) : (a.add b).hasK = (a.hasK || b.hasK) := by cases a <;> cases b <;> rfl
theorem CR.hasQ_add (a b : CR) : (a.add b).hasQ = (a.hasQ || b.hasQ) := by cases a <;> cases b <;> rfl

/-- the path mask of `castling_is_available_on_board` -/
def pathMask (c : Color) : Side → BB
  | .king => bbOf (Board.homeSq c 5) ^^^ bbOf (Board.homeSq c 6)
  | .queen => bbOf (Board.homeSq c 3) ^^^ bbOf (Board.homeSq c 2) ^^^ bbOf (Board.homeSq c 1)

theorem mem_pathMask (c : Color) (s : Side) : ∀ x, mem x (pathMask c s) = (pathFiles s).any fun k => x == hsqS c k := by
  cases c <;> cases s <;> decide +kernel

theorem path_blank {b : Board} {f} (h : Rep b f) (c : Color) (s : Side) :
    isBlank (pathMask c s &&& b.combined) = (pathFiles s).all fun k => (f (hsqS c k)).isNone := by
  rw [isBlank_eq_not_any, Bool.eq_iff_iff]
  simp only [mem_and, mem_pathMask, h.cmb, Bool.not_eq_true', List.any_eq_false, List.all_eq_true, Bool.and_eq_true,
    List.any_eq_true, beq_iff_eq, not_and, Bool.not_eq_true, Option.isSome_eq_false_iff, Option.isNone_iff_eq_none]
  exact ⟨fun h k hk => h _ (List.mem_finRange _) ⟨k, hk, rfl⟩, fun h x _ ⟨k, hk, e⟩ => e ▸ h k hk⟩

/-- the control flow of `castling_is_available_on_board`, on Booleans -/
theorem avail_bits : ∀ c k ck q cq : Bool,
    let r1 := if k then (if ck then CR.neither.add .kingSide else .neither) else .neither
    let r := if c then CR.neither else if q then (if cq then r1.add .queenSide else r1) else r1
    r.toRights = ⟨!c && (k && ck), !c && (q && cq)⟩ := by decide

theorem castlingAvailable_has (b : Board) (m : Option BB) (s : Side) :
    (b.castlingAvailable m).toRights.has s =
      (isBlank (m.getD b.checks) && ((b.rights b.stm).toRights.has s &&
        (!b.isUnderAttack (hsqS b.stm (rookTo s)) && !b.isUnderAttack (hsqS b.stm (kingTo s)) &&
         isBlank (pathMask b.stm s &&& b.combined)))) := by
  have := avail_bits (!isBlank (m.getD b.checks)) (b.rights b.stm).hasK
    (!b.isUnderAttack (Board.homeSq b.stm 5) && !b.isUnderAttack (Board.homeSq b.stm 6) &&
      isBlank (pathMask b.stm .king &&& b.combined))
    (b.rights b.stm).hasQ
    (!b.isUnderAttack (Board.homeSq b.stm 3) && !b.isUnderAttack (Board.homeSq b.stm 2) &&
      isBlank (pathMask b.stm .queen &&& b.combined))
  rw [Bool.not_not] at this
  -- `this` is `castlingAvailable` with its `let`s written out, so it closes each side up to unfolding.
  -- `homeSq c k` is not `hsqS c k` by unfolding: the goal is rewritten to the model's squares, never `this` to `hsqS`
  cases s
  · rw [show rookTo .king = 5 from rfl, show kingTo .king = 6 from rfl, ← homeSq_eq _ 5 (by decide),
      ← homeSq_eq _ 6 (by decide)]
    exact congrArg (Spec.Rights.has · .king) this
  · rw [show rookTo .queen = 3 from rfl, show kingTo .queen = 2 from rfl, ← homeSq_eq _ 3 (by decide),
      ← homeSq_eq _ 2 (by decide)]
    exact congrArg (Spec.Rights.has · .queen) this

variable {K : Keys}

/-- C01, castling part: availability as computed = castling allowed by the rules, for either side and for either way of
passing the check mask -/
theorem castlingAvailable_spec_of {b : Board} (hv : b.Valid K) (m : Option BB) (hm : m.getD b.checks = b.checks) (s : Side) :
    (b.castlingAvailable m).toRights.has s = Spec.castleOk b.absPos s := by
  rw [castlingAvailable_has, castleOk_iff hv.pos, hm, isUnderAttack_spec hv.cons, isUnderAttack_spec hv.cons,
    path_blank hv.cons, ← Bool.not_not (isBlank b.checks), hv.inCheck_eq]
  rfl

theorem castlingAvailable_spec {b : Board} (hv : b.Valid K) (s : Side) :
    (b.castlingAvailable none).toRights.has s = Spec.castleOk b.absPos s :=
  castlingAvailable_spec_of hv none rfl s

theorem castlingAvailable_eq {b : Board} (hv : b.Valid K) :
    b.castlingAvailable none = CR.ofBits (Spec.castleOk b.absPos .king) (Spec.castleOk b.absPos .queen) ∧
    b.castlingAvailable (some b.checks) = b.castlingAvailable none := by
  have h : ∀ m, m.getD b.checks = b.checks →
      b.castlingAvailable m = CR.ofBits (Spec.castleOk b.absPos .king) (Spec.castleOk b.absPos .queen) := fun m hm => by
    rw [← CR.ofBits_has (b.castlingAvailable m), ← castlingAvailable_spec_of hv m hm .king, ← castlingAvailable_spec_of hv m hm .queen]
    rfl
  exact ⟨h none rfl, by rw [h none rfl, h (some b.checks) rfl]⟩

/-- the king steps from `e` to the empty `f`; neither square is attacked; every line reaching `f` through `e`
    reaches `e` first: the king is not in check afterwards -/
theorem inCheck_kingStep (P : Sq → Option Piece) (c : Color) (e f : Sq)
    (hPe : P e = some ⟨.king, c⟩) (hu : ∀ s, P s = some ⟨.king, c⟩ → s = e)
    (hne : Spec.attackedBy P c.other e = false) (hnf : Spec.attackedBy P c.other f = false)
    (G : ∀ a, Spec.strictlyBetween a e f = true →
      (Spec.orthogonal a f = true → Spec.orthogonal a e = true) ∧
      (Spec.diagonal a f = true → Spec.diagonal a e = true) ∧
      (∀ x, Spec.strictlyBetween a x e = true → Spec.strictlyBetween a x f = true ∧ x ≠ e ∧ x ≠ f)) :
    Spec.inCheck (Spec.upd (Spec.upd P e none) f (some ⟨.king, c⟩)) c = false := by
  have hQ : ∀ x, Spec.upd (Spec.upd P e none) f (some ⟨.king, c⟩) x =
      if x = f then some ⟨.king, c⟩ else if x = e then none else P x := fun _ => rfl
  generalize Spec.upd (Spec.upd P e none) f (some ⟨.king, c⟩) = Q at hQ ⊢
  have hk : Spec.kingSq? Q c = some f := by
    refine kingSq?_of_unique (by rw [hQ, if_pos rfl]) fun s hs => ?_
    rw [hQ] at hs
    split at hs
    · assumption
    · split at hs
      · cases hs
      · exact absurd (hu s hs) ‹_›
  unfold Spec.inCheck
  rw [hk, ← Bool.not_eq_true, attackedBy_iff]
  rw [← Bool.not_eq_true, attackedBy_iff] at hne hnf
  rintro ⟨a, p, hQa, hc, hat⟩
  -- the attacker is an enemy man that stood on the same square before
  have hPa : P a = some p := by
    rw [hQ] at hQa
    split at hQa
    · cases hQa
      exact absurd hc (Color.other_ne c).symm
    · split at hQa
      · cases hQa
      · exact hQa
  have hne : Spec.attacks P a e = false := by
    rw [← Bool.not_eq_true]
    exact fun h => hne ⟨a, p, hPa, hc, h⟩
  have hnf : Spec.attacks P a f = false := by
    rw [← Bool.not_eq_true]
    exact fun h => hnf ⟨a, p, hPa, hc, h⟩
  rw [attacks_eq _ a _ p hPa] at hne hnf
  rw [attacks_eq _ a f p hQa, Bool.and_eq_true] at hat
  obtain ⟨hr, hcl⟩ := hat
  -- it did not attack `f` before: a slider whose line to `f` was blocked, and is free now
  rw [hr, Bool.true_and, Bool.or_eq_false_iff, Bool.not_eq_false'] at hnf
  obtain ⟨hs, hclP⟩ : isSlider p = true ∧ Spec.clearBetween P a f = false := hnf
  rw [hs, Bool.not_true, Bool.false_or] at hcl
  -- only the king's square was vacated, so it lies on that line
  have hb : Spec.strictlyBetween a e f = true := by
    rw [← Bool.not_eq_false]
    intro hb
    rw [clearBetween_congr P Q a f, hcl] at hclP
    · cases hclP
    · intro x hx
      have xf : x ≠ f := by rintro rfl; rw [strictlyBetween_self] at hx; cases hx
      have xe : x ≠ e := by rintro rfl; rw [hb] at hx; cases hx
      rw [hQ, if_neg xf, if_neg xe]
  -- then the slider attacked the king's square before the step
  obtain ⟨go, gd, gx⟩ := G a hb
  rw [moveGeom_slider_mono p a e f hs hr go gd, hs, Bool.true_and, Bool.not_true, Bool.false_or, ← Bool.not_eq_true,
    clearBetween_true_iff] at hne
  refine hne fun x hx => ?_
  obtain ⟨x1, x2, x3⟩ := gx x hx
  have := (clearBetween_true_iff _ _ _).1 hcl x x1
  rwa [hQ, if_neg x3, if_neg x2] at this

theorem applyBoard_king (p : Spec.Pos) (src dst : Sq) : Spec.applyBoard p (.piece .king src dst none) =
    Spec.upd (Spec.upd p.board src none) dst (some ⟨.king, p.stm⟩) := rfl

/-- finite geometric facts (per colour and side, by kernel evaluation): a line that reaches the crossed square through the
king's square reaches the king's square first -/
theorem kingStep_geom (c : Color) (s : Side) :
    moveGeom ⟨.king, c⟩ (hsqS c 4) (hsqS c (rookTo s)) = true ∧
    (∀ a, Spec.strictlyBetween a (hsqS c 4) (hsqS c (rookTo s)) = true →
      (Spec.orthogonal a (hsqS c (rookTo s)) = true → Spec.orthogonal a (hsqS c 4) = true) ∧
      (Spec.diagonal a (hsqS c (rookTo s)) = true → Spec.diagonal a (hsqS c 4) = true) ∧
      (∀ x, Spec.strictlyBetween a x (hsqS c 4) = true →
        Spec.strictlyBetween a x (hsqS c (rookTo s)) = true ∧ x ≠ hsqS c 4 ∧ x ≠ hsqS c (rookTo s))) := by
  cases c <;> cases s <;> decide +kernel

theorem castleOk_king_step (p : Spec.Pos) (hv : Spec.ValidPos p = true) (s : Side)
    (h : Spec.castleOk p s = true) :
    Spec.legal p (.piece .king (hsqS p.stm 4) (hsqS p.stm (rookTo s)) none) = true := by
  rw [castleOk_eq] at h
  simp only [Bool.and_eq_true, beq_iff_eq, List.all_eq_true, Option.isNone_iff_eq_none, Bool.not_eq_true'] at h
  obtain ⟨⟨⟨⟨⟨_, hK⟩, _, hpath⟩, hic⟩, hna⟩, _⟩ := h
  obtain ⟨g1, g2⟩ := kingStep_geom p.stm s
  -- the king stands on its home square; the step is pseudo-legal (`g1`, empty crossed square) and safe (`inCheck_kingStep`)
  obtain ⟨k, hk, _, hu⟩ := validPos_theKing hv p.stm
  obtain rfl : hsqS p.stm 4 = k := hu _ hK
  rw [Spec.inCheck, hk] at hic
  show (Spec.pseudo p .king _ _ none && !Spec.inCheck (Spec.applyBoard p (.piece .king _ _ none)) p.stm) = true
  rw [applyBoard_king, inCheck_kingStep p.board p.stm _ _ hK hu hic hna g2]
  simp [Spec.pseudo, hK, hpath _ (path_mem s).2, attacks_eq _ _ _ _ hK, isSlider, g1]

/-- castling available ⇒ the one-step king move towards that side is legal (so such a position is never terminal) -/
theorem castle_implies_king_step {b : Board} (hv : b.Valid K) (side : Side)
    (h : Spec.castleOk b.absPos side = true) :
    Spec.legal b.absPos (.piece .king (Board.homeSq b.stm 4)
      (match (generalizing := false) side with | .king => Board.homeSq b.stm 5 | .queen => Board.homeSq b.stm 3) none) = true := by
  have := castleOk_king_step b.absPos hv.pos side h
  simp only [homeSq_eq]
  cases side <;> exact this

/-! ### the castled placement with the home squares as `Spec.applyBoard` writes them -/
/-- the same square as `hsqS c k` (`Lemmas/Rules.lean`, where `applyBoard_castle` treats both sides at once) -/
def hsq (c : Color) (k : Nat) : Sq := ⟨((Spec.homeRank c).toNat * 8 + k) % 64, Nat.mod_lt _ (by decide)⟩

theorem applyBoard_castle_king_hsq (p : Spec.Pos) : Spec.applyBoard p (.castle .king) =
    castled p.board p.stm (hsq p.stm 4) (hsq p.stm 7) (hsq p.stm 6) (hsq p.stm 5) := rfl
theorem applyBoard_castle_queen_hsq (p : Spec.Pos) : Spec.applyBoard p (.castle .queen) =
    castled p.board p.stm (hsq p.stm 4) (hsq p.stm 0) (hsq p.stm 2) (hsq p.stm 3) := rfl

/-! ### sanity: the hypotheses are satisfiable and the specification discriminates -/
/-- Ke1 Ra1 Rh1 against Ke8 and one black rook on `r`; White to move with both rights -/
def exPos (r : Sq) : Spec.Pos :=
  { board := fun s => if s = 4 then some ⟨.king, .white⟩ else if s = 7 then some ⟨.rook, .white⟩
      else if s = 0 then some ⟨.rook, .white⟩ else if s = 60 then some ⟨.king, .black⟩
      else if s = r then some ⟨.rook, .black⟩ else none,
    stm := .white, rights := fun c => if c = .white then ⟨true, true⟩ else ⟨false, false⟩, ep := none, half := 0, full := 1 }
-- rook on h8 (63): both castlings allowed
example : Spec.ValidPos (exPos 63) = true ∧ Spec.castleOk (exPos 63) .king = true ∧ Spec.castleOk (exPos 63) .queen = true := by
  decide +kernel
-- rook on g8 (62) attacks g1: king side forbidden (castling into check), queen side allowed
example : Spec.ValidPos (exPos 62) = true ∧ Spec.castleOk (exPos 62) .king = false ∧ Spec.castleOk (exPos 62) .queen = true := by
  decide +kernel
-- rook on b8 (57) attacks only b1: queen side still allowed
example : Spec.ValidPos (exPos 57) = true ∧ Spec.castleOk (exPos 57) .queen = true := by
  decide +kernel
-- rook on d8 (59) attacks the crossed square d1: queen side forbidden
example : Spec.ValidPos (exPos 59) = true ∧ Spec.castleOk (exPos 59) .queen = false ∧ Spec.castleOk (exPos 59) .king = true := by
  decide +kernel

end Chess

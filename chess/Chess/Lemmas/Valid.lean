import Chess.Lemmas.Rep
namespace Chess
open Board

def CR.toRights (r : CR) : Spec.Rights := ⟨r.hasK, r.hasQ⟩

theorem CR.toRights_inj {r r' : CR} (h : r.toRights = r'.toRights) : r = r' := by
  cases r <;> cases r' <;> simp [CR.toRights, CR.hasK, CR.hasQ] at h ⊢

theorem CR.ofBits_has (r : CR) : CR.ofBits r.hasK r.hasQ = r := by cases r <;> rfl

/-- the specification position a board stands for -/
def Board.absPos (b : Board) : Spec.Pos :=
  { board := b.abs, stm := b.stm, rights := fun c => (b.rights c).toRights, ep := b.ep, half := b.half, full := b.full }

/-- the specification position a builder describes -/
def Builder.toPos (bb : Builder) : Spec.Pos :=
  { board := bb.pieces, stm := bb.stm, rights := fun c => (bb.rights c).toRights, ep := bb.ep,
    half := bb.half, full := bb.full }

def Board.Cons (b : Board) : Prop := Rep b b.abs

theorem Rep.cons {b : Board} {f} (h : Rep b f) : b.Cons := by
  unfold Board.Cons; rw [h.abs_eq]; exact h

/-- what holds of every `ChessBoard` value a caller can hold: one is obtained only from a validating constructor or from a
legal move (C06, C09) -/
structure Board.Valid (K : Keys) (b : Board) : Prop where
  cons : b.Cons
  pos : Spec.ValidPos b.absPos = true
  pinned_eq : b.pinned = (b.pinsAndChecks (b.kingSq b.stm)).1
  checks_eq : b.checks = (b.pinsAndChecks (b.kingSq b.stm)).2
  term_eq : b.term = !b.hasEscape K
  hash_eq : b.hash = b.calcHash K

end Chess

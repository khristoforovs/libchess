import Chess.Lemmas.Castling
import Chess.Lemmas.Pseudo
/-! For a `Valid` board a piece move is rule-legal iff it obeys the movement rule (`pseudoDest`), its promotion field is
well-formed (`promoShape`) and full evaluation without promotion piece finds the king safe (`legal_piece_iff`).  The generator
(`get_legal_moves`), the terminal-status search (`update_terminal_status`) and the legality test (`is_legal_move`) each compute
these three conjuncts in their own way; what differs is the shortcut (`Board.Valid.shortcut`) and the promotion piece, which
does not matter (`inCheck_promo_indep`). -/
namespace Chess
open Board Spec
variable {K : Keys}

theorem srcMem_iff {b : Board} (hc : b.Cons) (pt : PT) (src : Sq) :
    mem src (b.colors b.stm &&& b.pieces pt) = true ↔ b.abs src = some ⟨pt, b.stm⟩ := by
  rw [BitVec.and_comm, Rep.mem_man hc, beq_iff_eq]

theorem ep_empty_of_pos {b : Board} (hp : ValidPos b.absPos = true) : ∀ e, b.ep = some e → b.abs e = none :=
  fun e he => ((epOk_iff b.absPos).1 (validPos_epOk hp) e he).2.1

theorem king_after_of_pos {b : Board} (hc : b.Cons) (hp : ValidPos b.absPos = true)
    (pt : PT) (src dst : Sq) (promo : Option PT)
    (hd : pseudoDest b.absPos pt src dst = true) (hpr : promo ≠ some .king) (hkp : pt = .king → promo = none) :
    Spec.kingSq? (applyBoard b.absPos (.piece pt src dst promo)) b.stm =
      some (if pt = .king then dst else b.kingSq b.stm) := by
  obtain ⟨hk0, hu⟩ : b.absPos.board (b.kingSq b.stm) = some ⟨.king, b.absPos.stm⟩ ∧ _ := (hc.theKing hp b.stm).2
  have h := own_king_after hk0 hu (pseudoDest_src hd) (dst := dst) (promo := promo) ?_ ?_ ?_
  · exact kingSq?_of_unique ((h _).2 rfl) fun s => (h s).1
  · -- `dst` is not the king's square: it holds no own man
    rintro rfl
    have := pseudoDest_dst_not_own hd
    simp [isColor, hk0] at this
  · -- a king lands only if a king left
    cases promo with
    | none => simp
    | some x => exact ⟨fun e => absurd (congrArg some e) hpr, fun e => by cases hkp e⟩
  · -- the square behind the en-passant square holds an enemy pawn, not the own king
    intro hv
    have := victim?_pawn (validPos_epOk hp) hv
    rw [hk0] at this
    cases this

theorem checkMaskAfter_spec (K : Keys) {b : Board} (h : b.Cons) (pt : PT) (src dst : Sq) (promo : Option PT)
    (hsrc : b.abs src = some ⟨pt, b.stm⟩)
    (k : Sq) (hk : Spec.kingSq? (applyBoard b.absPos (.piece pt src dst promo)) b.stm = some k) :
    isBlank (b.checkMaskAfter K pt src dst promo) = !inCheck (applyBoard b.absPos (.piece pt src dst promo)) b.stm := by
  have hr := h.afterPieceMove K pt src dst promo hsrc
  have hst : ((b.movePiece K pt src dst promo).clearIfEp K pt dst).stm = b.stm := (place_state K b (.piece pt src dst promo)).stm
  unfold Board.checkMaskAfter Board.updatePinsAndChecks
  simp only [hst]
  rw [kingSq_spec hr b.stm k hk]
  have := isUnderAttack_spec hr k  -- `is_under_attack` is "check mask not blank"
  rw [hst] at this
  rw [Spec.inCheck, hk, ← Bool.not_not (isBlank _)]
  exact congrArg (!·) this

theorem Board.Valid.fullEval {b : Board} (hv : b.Valid K) (pt : PT) (src dst : Sq) (promo : Option PT)
    (hd : pseudoDest b.absPos pt src dst = true) (hpr : promo ≠ some .king) (hkp : pt = .king → promo = none) :
    isBlank (b.checkMaskAfter K pt src dst promo) = !inCheck (applyBoard b.absPos (.piece pt src dst promo)) b.stm :=
  checkMaskAfter_spec K hv.cons pt src dst promo (pseudoDest_src hd) _
    (king_after_of_pos hv.cons hv.pos pt src dst promo hd hpr hkp)

theorem inCheck_promo_indep {b : Board} (hv : b.Valid K) (src dst : Sq) (promo : Option PT)
    (hd : pseudoDest b.absPos .pawn src dst = true) (hpr : promo ≠ some .king) :
    inCheck (applyBoard b.absPos (.piece .pawn src dst promo)) b.stm =
      inCheck (applyBoard b.absPos (.piece .pawn src dst none)) b.stm := by
  have h1 := king_after_of_pos hv.cons hv.pos .pawn src dst promo hd hpr (by intro h; cases h)
  have h2 := king_after_of_pos hv.cons hv.pos .pawn src dst none hd (by simp) (by intro h; cases h)
  unfold inCheck
  rw [h1, h2]
  -- the two placements differ at most in the type of the own man on `dst`: same enemy men, same occupied squares
  have hx : ∀ x, x ≠ dst → applyBoard b.absPos (.piece .pawn src dst promo) x =
      applyBoard b.absPos (.piece .pawn src dst none) x := fun x hx => by
    simp only [applyBoard_piece, if_neg hx]
  apply attackedBy_congr_occ
  · intro x
    by_cases hxd : x = dst
    · subst hxd
      simp [isColor, applyBoard_piece_dst, show b.absPos.stm = b.stm from rfl, Color.beq_other]
    · exact fun _ => hx x hxd
  · intro x
    by_cases hxd : x = dst
    · subst hxd
      simp only [applyBoard_piece_dst, Option.isNone_some]
    · rw [hx x hxd]

theorem needsFullCheck_false {b : Board} {pt : PT} {src dst : Sq} (h : b.needsFullCheck b.checks pt src dst = false) :
    isBlank b.checks = true ∧ pt ≠ .king ∧ b.isEpMove pt dst = false ∧ mem src b.pinned = false := by
  simpa only [Board.needsFullCheck, Bool.or_eq_false_iff, Bool.not_eq_false', beq_eq_false_iff_ne, ne_eq, isBlank_bbOf_and,
    Bool.not_not, and_assoc] using h

theorem movePiece_isEpMove (K : Keys) (b : Board) (pt : PT) (src dst : Sq) (promo : Option PT) (pt' : PT) (d : Sq) :
    (b.movePiece K pt src dst promo).isEpMove pt' d = b.isEpMove pt' d := by
  unfold Board.isEpMove; rw [(movePiece_state K b pt src dst promo).ep]

/-- the shortcut of `get_legal_moves` / `is_legal_move` is sound: not in check, not the king, not en passant, source not
pinned ⇒ full evaluation would find the king safe -/
theorem Board.Valid.shortcut {b : Board} (hv : b.Valid K) (pt : PT) (src dst : Sq)
    (hd : pseudoDest b.absPos pt src dst = true) (hn : b.needsFullCheck b.checks pt src dst = false) :
    isBlank (b.checkMaskAfter K pt src dst none) = true := by
  obtain ⟨hchk, hpk, hnep, hpin⟩ := needsFullCheck_false hn
  have hc : Rep b b.abs := hv.cons
  have hsrc : b.abs src = some ⟨pt, b.stm⟩ := pseudoDest_src hd
  -- the board after the move (nothing is cleared behind an en-passant square), its placement written as point updates for
  -- the mask comparisons (`repUpd`) and as `applyBoard` for the king square (`repApply`)
  have repUpd := hc.movePiece K pt src dst none _ hsrc
  have hking := king_after_of_pos hv.cons hv.pos pt src dst none hd (by simp) (fun _ => rfl)
  rw [if_neg hpk] at hking
  have repApply := hv.cons.afterPieceMove K pt src dst none hsrc
  have hce : (b.movePiece K pt src dst none).clearIfEp K pt dst = b.movePiece K pt src dst none := by
    rw [Board.clearIfEp, movePiece_isEpMove, hnep]
    rfl
  unfold Board.checkMaskAfter
  rw [hce] at repApply ⊢
  unfold Board.updatePinsAndChecks
  simp only [(movePiece_state K b pt src dst none).stm]
  rw [kingSq_spec repApply b.stm _ hking, isBlank_iff]
  apply pin_lemma b (b.movePiece K pt src dst none) (b.kingSq b.stm) src dst (movePiece_state K b pt src dst none).stm
  · rw [hc.cls, hsrc]
    exact beq_self_eq_true _
  · intro x
    rw [hc.cls, hc.cls]
    cases b.abs x <;> simp [Color.beq_other]
  · intro t x hxs hxd
    rw [repUpd.pcs, hc.pcs]
    simp only [Spec.upd, if_neg hxd, if_neg hxs]
  · intro x
    rw [repUpd.cls, hc.cls]
    by_cases hxd : x = dst
    · simp [Spec.upd, hxd, Color.beq_other]
    · by_cases hxs : x = src
      · subst hxs
        simp [Spec.upd, hxd, hsrc, Color.beq_other]
      · simp [Spec.upd, hxd, hxs]
  · intro x
    rw [repUpd.cmb, hc.cmb]
    by_cases hxd : x = dst
    · simp [Spec.upd, hxd]
    · by_cases hxs : x = src
      · subst hxs
        simp [Spec.upd, hxd]
      · simp [Spec.upd, hxd, hxs]
  · rw [← hv.checks_eq]
    exact (isBlank_iff _).1 hchk
  · rw [← hv.pinned_eq]
    exact hpin

theorem Board.Valid.fullEval_none_eq_passes {b : Board} (hv : b.Valid K) (pt : PT) (src dst : Sq)
    (hd : pseudoDest b.absPos pt src dst = true) :
    isBlank (b.checkMaskAfter K pt src dst none) = b.passes K pt src dst := by
  unfold Board.passes
  cases hn : b.needsFullCheck b.checks pt src dst
  · exact hv.shortcut pt src dst hd hn
  · rfl

/-- the generator's filter (shortcut included) decides exactly "own king not attacked after the move",
whatever promotion piece the generated move carries -/
theorem Board.Valid.passes_spec {b : Board} (hv : b.Valid K) (pt : PT) (src dst : Sq) (promo : Option PT)
    (hd : pseudoDest b.absPos pt src dst = true) (hps : promoShape b.stm pt dst promo = true) :
    b.passes K pt src dst = !inCheck (applyBoard b.absPos (.piece pt src dst promo)) b.stm := by
  obtain ⟨hpk, _, hnp⟩ := promoShape_facts hps
  rw [← hv.fullEval_none_eq_passes pt src dst hd, hv.fullEval pt src dst none hd (by simp) (fun _ => rfl)]
  by_cases hp : pt = .pawn
  · subst hp
    rw [inCheck_promo_indep hv src dst promo hd hpk]
  · rw [hnp hp]

theorem Board.Valid.mask_iff {b : Board} (hv : b.Valid K) (pt : PT) (src dst : Sq) :
    (mem src (b.colors b.stm &&& b.pieces pt) = true ∧ mem dst (b.pieceMovesMask pt src) = true) ↔
      pseudoDest b.absPos pt src dst = true := by
  rw [srcMem_iff hv.cons]
  constructor
  · rintro ⟨hs, hd⟩
    rw [← pieceMovesMask_absPos hv.cons (ep_empty_of_pos hv.pos) pt src dst hs]
    exact hd
  · intro hd
    have hs := pseudoDest_src hd
    exact ⟨hs, by rw [pieceMovesMask_absPos hv.cons (ep_empty_of_pos hv.pos) pt src dst hs]; exact hd⟩

theorem Board.Valid.legal_piece_iff {b : Board} (hv : b.Valid K) (pt : PT) (src dst : Sq) (promo : Option PT) :
    Spec.legal b.absPos (.piece pt src dst promo) = true ↔
      pseudoDest b.absPos pt src dst = true ∧ promoShape b.stm pt dst promo = true ∧
        isBlank (b.checkMaskAfter K pt src dst none) = true := by
  simp only [Spec.legal, pseudo_eq, Bool.and_eq_true, and_assoc]
  refine and_congr_right fun hd => and_congr_right fun hps => ?_
  rw [hv.fullEval_none_eq_passes pt src dst hd, hv.passes_spec pt src dst promo hd hps]
  rfl

/-- C01, membership: the generated list holds exactly the rule-legal moves -/
theorem Board.Valid.mem_getLegalMoves_iff {b : Board} (hv : b.Valid K) (m : Move) :
    m ∈ b.getLegalMoves K ↔ Spec.legal b.absPos m = true := by
  cases m with
  | castle s =>
    have h : (b.castlingAvailable (some b.checks)).toRights.has s = Spec.legal b.absPos (.castle s) :=
      castlingAvailable_spec_of hv _ rfl s
    rw [← h, mem_getLegalMoves]
    cases s <;> rfl
  | piece pt src dst promo =>
    rw [mem_getLegalMoves]
    dsimp only
    rw [← and_assoc, hv.mask_iff, hv.legal_piece_iff]
    refine and_congr_right fun hd => ?_
    rw [hv.fullEval_none_eq_passes pt src dst hd, and_comm]

theorem hasEscape_iff (b : Board) : b.hasEscape K = true ↔
    ∃ pt sq d, mem sq (b.colors b.stm &&& b.pieces pt) = true ∧ mem d (b.pieceMovesMask pt sq) = true ∧
      isBlank (b.checkMaskAfter K pt sq d none) = true := by
  unfold Board.hasEscape
  simp only [List.any_eq_true, mem_toList]
  constructor
  · rintro ⟨pt, _, sq, hsq, d, hd, hb⟩; exact ⟨pt, sq, d, hsq, hd, hb⟩
  · rintro ⟨pt, sq, d, hsq, hd, hb⟩; exact ⟨pt, PT.mem_all pt, sq, hsq, d, hd, hb⟩

/-- the terminal-status search finds an escape iff some piece move is legal -/
theorem Board.Valid.hasEscape_spec {b : Board} (hv : b.Valid K) :
    b.hasEscape K = true ↔ ∃ pt src dst promo, Spec.legal b.absPos (.piece pt src dst promo) = true := by
  simp only [hasEscape_iff, hv.legal_piece_iff, ← and_assoc, hv.mask_iff]
  constructor
  · rintro ⟨pt, sq, d, hd, hb⟩
    obtain ⟨promo, hps⟩ := promoShape_exists b.stm pt d
    exact ⟨pt, sq, d, promo, ⟨hd, hps⟩, hb⟩
  · rintro ⟨pt, sq, d, _, ⟨hd, _⟩, hb⟩
    exact ⟨pt, sq, d, hd, hb⟩

/-- C04, terminal flag: set exactly when the side to move has no legal move (castling included) -/
theorem Board.Valid.term_iff {b : Board} (hv : b.Valid K) :
    b.term = true ↔ ∀ m, Spec.legal b.absPos m = false := by
  rw [hv.term_eq, Bool.not_eq_true', ← Bool.not_eq_true, hv.hasEscape_spec]
  constructor
  · intro hne m
    rw [← Bool.not_eq_true]
    intro hm
    cases m with
    | piece pt src dst promo => exact hne ⟨pt, src, dst, promo, hm⟩
    | castle s => exact hne ⟨_, _, _, _, castle_implies_king_step hv s hm⟩
  · rintro h ⟨pt, src, dst, promo, hl⟩
    rw [h] at hl
    cases hl

theorem isLegalMove_piece_iff (b : Board) (pt : PT) (src dst : Sq) (promo : Option PT) :
    b.isLegalMove K (.piece pt src dst promo) = true ↔
      (b.term = false ∧ mem src (b.colors b.stm &&& b.pieces pt) = true ∧ mem dst (b.pieceMovesMask pt src) = true ∧
       promo.isSome = (pt == .pawn && dst.rk == Board.promoRank b.stm) ∧ promo ≠ some .king ∧
       (b.needsFullCheck b.checks pt src dst = true → isBlank (b.checkMaskAfter K pt src dst promo) = true)) := by
  have e1 : isBlank (b.pieces pt &&& b.colors b.stm &&& bbOf src) = !mem src (b.colors b.stm &&& b.pieces pt) := by
    rw [isBlank_and_bbOf, BitVec.and_comm]
  -- each early `return false` is a conjunct `¬ condition`
  simp only [Board.isLegalMove, e1, isBlank_and_bbOf, Bool.if_false_left, Bool.if_true_right, Bool.and_eq_true,
    Bool.or_eq_true, Bool.not_eq_true', decide_eq_false_iff_not, Bool.not_eq_false, Bool.decide_eq_true, not_or,
    bne_iff_ne, ne_eq, Decidable.not_not, beq_iff_eq, and_assoc]
  cases b.needsFullCheck b.checks pt src dst <;> simp

theorem Board.Valid.isLegalMove_eval_iff {b : Board} (hv : b.Valid K) {pt : PT} {src dst : Sq} {promo : Option PT}
    (hd : pseudoDest b.absPos pt src dst = true) (hps : promoShape b.stm pt dst promo = true) :
    (b.needsFullCheck b.checks pt src dst = true → isBlank (b.checkMaskAfter K pt src dst promo) = true) ↔
      isBlank (b.checkMaskAfter K pt src dst none) = true := by
  obtain ⟨hpk, _, hnpn⟩ := promoShape_facts hps
  -- evaluation with `promo` = king safe after the move = `passes` = evaluation without; the shortcut covers the other branch
  rw [hv.fullEval pt src dst promo hd hpk (fun e => hnpn (by rw [e]; decide)), ← hv.passes_spec pt src dst promo hd hps,
    ← hv.fullEval_none_eq_passes pt src dst hd]
  cases hn : b.needsFullCheck b.checks pt src dst
  · simp [hv.shortcut pt src dst hd hn]
  · simp

/-- C03 in rule terms: the legality test decides rule-legality
(for every representable move value: the move constructor rejects promotion to a pawn) -/
theorem Board.Valid.isLegalMove_eq_legal {b : Board} (hv : b.Valid K) (m : Move)
    (hw : ∀ pt s d, m ≠ .piece pt s d (some .pawn)) :
    b.isLegalMove K m = Spec.legal b.absPos m := by
  rw [Bool.eq_iff_iff]
  have hterm : Spec.legal b.absPos m = true → b.term = false := fun h => by
    cases ht : b.term
    · rfl
    · rw [hv.term_iff.1 ht m] at h
      cases h
  cases m with
  | castle s =>
    have : b.isLegalMove K (.castle s) = (!b.term && Spec.legal b.absPos (.castle s)) := by
      rw [← show _ = Spec.legal b.absPos (.castle s) from castlingAvailable_spec hv s]
      cases s <;> simp only [Board.isLegalMove, Bool.if_false_left, Bool.decide_eq_true] <;> rfl
    rw [this, Bool.and_eq_true, Bool.not_eq_true']
    exact ⟨fun h => h.2, fun h => ⟨hterm h, h⟩⟩
  | piece pt src dst promo =>
    have hnp : promo ≠ some .pawn := fun e => hw pt src dst (by rw [e])
    rw [hv.legal_piece_iff] at hterm ⊢
    rw [isLegalMove_piece_iff, ← and_assoc (a := mem _ _ = true), hv.mask_iff]
    constructor
    · rintro ⟨_, hd, hp1, hp2, hfull⟩
      have hps := (promoShape_iff _ _ _ _).2 ⟨hp1, hp2, hnp⟩
      exact ⟨hd, hps, (hv.isLegalMove_eval_iff hd hps).1 hfull⟩
    · rintro ⟨hd, hps, hsafe⟩
      have hp := (promoShape_iff _ _ _ _).1 hps
      exact ⟨hterm ⟨hd, hps, hsafe⟩, hd, hp.1, hp.2.1, (hv.isLegalMove_eval_iff hd hps).2 hsafe⟩

/-- C03: the legality test answers true exactly for the moves of the legal-move list -/
theorem Board.Valid.isLegalMove_iff {b : Board} (hv : b.Valid K) (m : Move)
    (hw : ∀ pt s d, m ≠ .piece pt s d (some .pawn)) :
    b.isLegalMove K m = true ↔ m ∈ b.getLegalMoves K := by
  rw [hv.isLegalMove_eq_legal m hw, hv.mem_getLegalMoves_iff]

end Chess

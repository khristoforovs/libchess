import Chess.Lemmas.BB
import Chess.Lemmas.Rules
import Chess.Model.Board
/-! `Rep b f`: the 6 + 2 + 1 masks of a board encode the placement `f`.  `clearSquare` / `putPiece` are point updates of `f`
(`Spec.upd`) that XOR one key each into the hash and leave every other field alone (`SameState`). -/
namespace Chess
open Board

structure Rep (b : Board) (f : Sq → Option Piece) : Prop where
  pcs : ∀ t s, mem s (b.pieces t) = (match f s with | some p => p.pt == t | none => false)
  cls : ∀ c s, mem s (b.colors c) = (match f s with | some p => p.c == c | none => false)
  cmb : ∀ s, mem s b.combined = (f s).isSome

variable (K : Keys)

theorem Rep.isEmptySq {b : Board} {f} (h : Rep b f) (s : Sq) : b.isEmptySq s = (f s).isNone := by
  simp only [Board.isEmptySq, isBlank_and_bbOf, h.cmb]; cases f s <;> rfl

theorem Rep.typeIdxSum {b : Board} {f} (h : Rep b f) (s : Sq) (p : Piece) (hp : f s = some p) :
    b.typeIdxSum s = p.pt.idx := by
  -- of the five summands `t.idx * [s ∈ pieces t]` only the one of `p.pt` is non-zero (none for a pawn, whose index is 0)
  simp only [Board.typeIdxSum, isBlank_and_bbOf, h.pcs, hp, List.foldl_cons, List.foldl_nil]
  obtain ⟨t, c⟩ := p
  cases t <;> simp [PT.idx]

theorem Rep.getPieceTypeOn {b : Board} {f} (h : Rep b f) (s : Sq) : b.getPieceTypeOn s = (f s).map (·.pt) := by
  unfold Board.getPieceTypeOn
  rw [h.isEmptySq]
  cases hp : f s with
  | none => simp
  | some p =>
    simp only [Option.isNone_some, Bool.false_eq_true, if_false, h.typeIdxSum s p hp, Option.map_some]
    cases p.pt <;> rfl

/-- `PieceType::from_index(sum).unwrap()` in `get_piece_type_on` cannot fail on masks that encode a placement -/
theorem Rep.panicsTypeOn {b : Board} {f} (h : Rep b f) (s : Sq) : b.panicsTypeOn s = false := by
  unfold Board.panicsTypeOn
  rw [h.isEmptySq]
  cases hp : f s with
  | none => rfl
  | some p =>
    rw [h.typeIdxSum s p hp]
    cases p.pt <;> rfl

theorem Rep.getPieceColorOn {b : Board} {f} (h : Rep b f) (s : Sq) : b.getPieceColorOn s = (f s).map (·.c) := by
  unfold Board.getPieceColorOn
  rw [h.isEmptySq, isBlank_and_bbOf, h.cls]
  cases hp : f s with
  | none => simp
  | some p => obtain ⟨t, c⟩ := p; cases c <;> simp

theorem Rep.mem_man {b : Board} {f} (h : Rep b f) (t : PT) (c : Color) (s : Sq) :
    mem s (b.pieces t &&& b.colors c) = (f s == some ⟨t, c⟩) := by
  rw [mem_and, h.pcs, h.cls, Bool.eq_iff_iff]
  rcases f s with _ | ⟨t', c'⟩ <;> simp

theorem Rep.popcount_king {b : Board} {f} (h : Rep b f) (c : Color) :
    popcount (b.pieces .king &&& b.colors c) = Spec.countPiece f ⟨.king, c⟩ := by
  rw [popcount_eq_countP]
  exact List.countP_congr fun s _ => by rw [h.mem_man]

theorem Rep.colors_disjoint {b : Board} {f} (h : Rep b f) : isBlank (b.colors .white &&& b.colors .black) = true := by
  rw [isBlank_iff, eq_zero_iff]
  intro s
  simp only [mem_and, h.cls]
  rcases f s with _ | ⟨pt, c⟩
  · rfl
  · cases c <;> rfl

theorem Rep.pieces_disjoint {b : Board} {f} (h : Rep b f) (t u : PT) (htu : t ≠ u) :
    isBlank (b.pieces t &&& b.pieces u) = true := by
  rw [isBlank_iff, eq_zero_iff]
  intro s
  simp only [mem_and, h.pcs]
  rcases f s with _ | ⟨pt, c⟩
  · rfl
  · by_cases e : pt = t <;> simp [e, htu]

theorem Rep.getPieceOn {b : Board} {f} (h : Rep b f) (s : Sq) : b.getPieceOn s = f s := by
  unfold Board.getPieceOn
  rw [h.getPieceTypeOn, isBlank_and_bbOf, h.cls]
  cases hp : f s with
  | none => simp
  | some p => obtain ⟨t, c⟩ := p; cases c <;> simp

/-- the placement a board encodes -/
def Board.abs (b : Board) : Sq → Option Piece := fun s => b.getPieceOn s

theorem Rep.abs_eq {b : Board} {f} (h : Rep b f) : b.abs = f := funext fun s => h.getPieceOn s

theorem rep_new : Rep Board.new (fun _ => none) :=
  ⟨fun _ _ => by simp [Board.new], fun _ _ => by simp [Board.new], fun _ => by simp [Board.new]⟩

theorem Board.ext' {a b : Board} (h1 : a.pieces = b.pieces) (h2 : a.colors = b.colors) (h3 : a.combined = b.combined)
    (h4 : a.stm = b.stm) (h5 : a.rights = b.rights) (h6 : a.ep = b.ep) (h7 : a.pinned = b.pinned)
    (h8 : a.checks = b.checks) (h9 : a.term = b.term) (h10 : a.half = b.half) (h11 : a.full = b.full)
    (h12 : a.hash = b.hash) : a = b := by
  cases a; cases b; simp_all

theorem Builder.ext' {a b : Builder} (h1 : a.pieces = b.pieces) (h2 : a.stm = b.stm) (h3 : a.rights = b.rights)
    (h4 : a.ep = b.ep) (h5 : a.half = b.half) (h6 : a.full = b.full) : a = b := by
  cases a; cases b; simp_all

theorem Rep.masks_unique {b b' : Board} {f} (h : Rep b f) (h' : Rep b' f) :
    b.pieces = b'.pieces ∧ b.colors = b'.colors ∧ b.combined = b'.combined := by
  refine ⟨?_, ?_, ?_⟩
  · funext t; apply bb_ext; intro s; rw [h.pcs, h'.pcs]
  · funext c; apply bb_ext; intro s; rw [h.cls, h'.cls]
  · apply bb_ext; intro s; rw [h.cmb, h'.cmb]

theorem toBuilder_pieces {b : Board} {f} (h : Rep b f) : b.toBuilder.pieces = f := by
  funext s
  show (match b.getPieceTypeOn s, b.getPieceColorOn s with
      | some t, some c => some (⟨t, c⟩ : Piece) | _, _ => none) = f s
  rw [h.getPieceTypeOn, h.getPieceColorOn]
  cases f s <;> rfl

theorem mem_setFn_clear {α} [DecidableEq α] (g : α → BB) (a t : α) (s x : Sq) :
    mem x (setFn g a (g a &&& ~~~bbOf s) t) = (mem x (g t) && !(decide (a = t) && decide (x = s))) := by
  by_cases h : a = t
  · subst h; simp [setFn]
  · simp [setFn, h, Ne.symm h]

theorem mem_setFn_flip {α} [DecidableEq α] (g : α → BB) (a t : α) (s x : Sq) :
    mem x (setFn g a (g a ^^^ bbOf s) t) = (mem x (g t) ^^ (decide (a = t) && decide (x = s))) := by
  by_cases h : a = t
  · subst h; simp [setFn]
  · simp [setFn, h, Ne.symm h]

theorem Rep.clearSquare {b : Board} {f} (h : Rep b f) (s : Sq) : Rep (b.clearSquare K s) (Spec.upd f s none) := by
  unfold Board.clearSquare
  rw [h.getPieceOn]
  cases hp : f s with
  | none =>
    rw [show Spec.upd f s none = f from hp ▸ Spec.upd_self f s]
    exact h
  | some p =>
    refine ⟨fun t x => ?_, fun c x => ?_, fun x => ?_⟩
    · rw [mem_setFn_clear, h.pcs]
      by_cases hx : x = s <;> simp [Spec.upd, hx, hp]
    · rw [mem_setFn_clear, h.cls]
      by_cases hx : x = s <;> simp [Spec.upd, hx, hp]
    · simp only [Spec.upd, mem_and, mem_not, mem_bbOf, h.cmb]
      by_cases hx : x = s <;> simp [hx]

theorem Rep.putPiece_empty {b : Board} {f} (h : Rep b f) (p : Piece) (s : Sq) (he : f s = none) :
    Rep ({ b with combined := b.combined ^^^ bbOf s,
                  pieces := setFn b.pieces p.pt (b.pieces p.pt ^^^ bbOf s),
                  colors := setFn b.colors p.c (b.colors p.c ^^^ bbOf s),
                  hash := b.hash ^^^ K.piece p.c p.pt s } : Board) (Spec.upd f s (some p)) := by
  refine ⟨fun t x => ?_, fun c x => ?_, fun x => ?_⟩
  · rw [mem_setFn_flip, h.pcs]
    by_cases hx : x = s <;> simp [Spec.upd, hx, he, Bool.beq_eq_decide_eq]
  · rw [mem_setFn_flip, h.cls]
    by_cases hx : x = s <;> simp [Spec.upd, hx, he, Bool.beq_eq_decide_eq]
  · simp only [Spec.upd, mem_xor, mem_bbOf, h.cmb]
    by_cases hx : x = s <;> simp [hx, he]

theorem Rep.putPiece {b : Board} {f} (h : Rep b f) (p : Piece) (s : Sq) :
    Rep (b.putPiece K p s) (Spec.upd f s (some p)) := by
  unfold Board.putPiece
  rw [h.isEmptySq]
  cases he : f s with
  | none =>
    simp only [Option.isNone_none, Bool.not_true, Bool.false_eq_true, if_false]
    exact h.putPiece_empty K p s he
  | some q =>
    simp only [Option.isNone_some, Bool.not_false, if_true]
    have e : Spec.upd (Spec.upd f s none) s (some p) = Spec.upd f s (some p) := by
      funext x; simp only [Spec.upd]; split <;> rfl
    exact e ▸ (h.clearSquare K s).putPiece_empty K p s (by simp [Spec.upd])

structure SameState (b b' : Board) : Prop where
  stm : b'.stm = b.stm
  rights : b'.rights = b.rights
  ep : b'.ep = b.ep
  half : b'.half = b.half
  full : b'.full = b.full

theorem SameState.trans {a b c : Board} (h : SameState a b) (h' : SameState b c) : SameState a c :=
  ⟨h'.stm.trans h.stm, h'.rights.trans h.rights, h'.ep.trans h.ep, h'.half.trans h.half, h'.full.trans h.full⟩

theorem clearSquare_state (b : Board) (s : Sq) : SameState b (b.clearSquare K s) := by
  unfold Board.clearSquare; split <;> exact ⟨rfl, rfl, rfl, rfl, rfl⟩

theorem putPiece_state (b : Board) (p : Piece) (s : Sq) : SameState b (b.putPiece K p s) := by
  unfold Board.putPiece; split
  · exact (clearSquare_state K b s).trans ⟨rfl, rfl, rfl, rfl, rfl⟩
  · exact ⟨rfl, rfl, rfl, rfl, rfl⟩

def Keys.occ (K : Keys) (v : Option Piece) (s : Sq) : BB := match v with | some p => K.piece p.c p.pt s | none => 0#64
def Keys.stmKey (K : Keys) (c : Color) : BB := if c = .black then K.black else 0#64
/-- only the FILE of the en-passant square is hashed -/
def Keys.epKey (K : Keys) (e : Option Sq) : BB := match e with | some s => K.ep (epFile s) | none => 0#64

theorem Rep.clearSquare_hash {b : Board} {f} (h : Rep b f) (s : Sq) :
    (b.clearSquare K s).hash = b.hash ^^^ K.occ (f s) s := by
  unfold Board.clearSquare
  rw [h.getPieceOn]
  cases f s <;> simp [Keys.occ]

theorem Rep.putPiece_hash {b : Board} {f} (h : Rep b f) (p : Piece) (s : Sq) :
    (b.putPiece K p s).hash = b.hash ^^^ K.occ (f s) s ^^^ K.piece p.c p.pt s := by
  unfold Board.putPiece
  rw [h.isEmptySq]
  cases he : f s with
  | none => simp [Keys.occ]
  | some q => simp [h.clearSquare_hash K s, he]

end Chess

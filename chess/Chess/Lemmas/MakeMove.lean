import Chess.Lemmas.Valid
/-! `Board.makeMoveUnchecked` (mirror of `make_move_mut_unchecked`) as `finish ∘ place`.  The placement stage touches masks and
hash only and is described through `Rep`; every bookkeeping stage is a record update (`*_eq`), so what it keeps and what it
sets is read off by `rfl` / `simp`. -/
namespace Chess
open Board
variable (K : Keys)

theorem Rep.of_masks {b b' : Board} {f} (h : Rep b f) (hp : b'.pieces = b.pieces) (hc : b'.colors = b.colors)
    (hm : b'.combined = b.combined) : Rep b' f :=
  ⟨by rw [hp]; exact h.pcs, by rw [hc]; exact h.cls, by rw [hm]; exact h.cmb⟩

theorem fwd_eq (c : Color) : Board.fwd c = Spec.fwd c := by cases c <;> rfl

theorem homeSq_eq (c : Color) (k : Nat) (hk : k < 8) : Board.homeSq c k hk = hsqS c k := by
  apply Fin.ext
  cases c <;> simp [Board.homeSq, Board.backRank, Spec.homeRank, hsqS] <;> omega

theorem setFn_self {α β} [DecidableEq α] (f : α → β) (a : α) : setFn f a (f a) = f := by
  funext x; by_cases hx : x = a <;> simp [setFn, hx]

/-- what a move takes from the opponent's rights (`o` = the opponent) -/
def oppLoss (o : Color) : Move → CR
  | .piece _ _ dst _ => if dst = homeSq o 7 then .kingSide else if dst = homeSq o 0 then .queenSide else .neither
  | .castle _ => .neither
/-- what a move takes from the mover's rights (`c` = the mover) -/
def ownLoss (c : Color) : Move → CR
  | .piece .rook src _ _ => if src = homeSq c 7 then .kingSide else if src = homeSq c 0 then .queenSide else .neither
  | .piece .king _ _ _ => .both
  | .piece _ _ _ _ => .neither
  | .castle _ => .both

theorem CR.neither_sub (x : CR) : CR.neither.sub x = .neither := by cases x <;> rfl
theorem CR.sub_neither (r : CR) : r.sub .neither = r := by cases r <;> rfl
theorem CR.toRights_sub (r x : CR) : (r.sub x).toRights = Spec.dropRights r.toRights x.hasK x.hasQ := by
  cases r <;> cases x <;> rfl
theorem CR.toRights_sub_both (r : CR) : (r.sub .both).toRights = ⟨false, false⟩ := by cases r <;> rfl

theorem dropRights_loss (r : Spec.Rights) (s a b : Sq) (hab : a ≠ b) :
    Spec.dropRights r (if s = a then CR.kingSide else if s = b then .queenSide else .neither).hasK
      (if s = a then CR.kingSide else if s = b then .queenSide else .neither).hasQ = Spec.dropRights r (s == a) (s == b) := by
  rw [show (s == a) = decide (s = a) from rfl, show (s == b) = decide (s = b) from rfl]
  by_cases ha : s = a
  · subst ha
    simp [CR.hasK, CR.hasQ, hab]
  · by_cases hb : s = b
    · subst hb
      simp [ha, CR.hasK, CR.hasQ]
    · simp [ha, hb, CR.hasK, CR.hasQ]

theorem toRights_sub_ownLoss (r : CR) (c : Color) (m : Move) :
    (r.sub (ownLoss c m)).toRights = ownRights r.toRights c m := by
  have h70 : hsqS c 7 ≠ hsqS c 0 := hsq_ne
  rw [CR.toRights_sub]
  rcases m with ⟨pt, src, dst, promo⟩ | s
  · cases pt
    -- a rook: `dropRights_loss` turns the model's `if`-chain over the two corners into the rules' two Boolean tests
    case rook => simp only [ownLoss, ownRights, homeSq_eq, dropRights_loss _ _ _ _ h70]
    all_goals simp [ownLoss, ownRights, Spec.dropRights, CR.hasK, CR.hasQ]
  · simp [ownLoss, ownRights, Spec.dropRights, CR.hasK, CR.hasQ]

theorem toRights_sub_oppLoss (r : CR) (o : Color) (m : Move) :
    (r.sub (oppLoss o m)).toRights = oppRights r.toRights o m := by
  have h70 : hsqS o 7 ≠ hsqS o 0 := hsq_ne
  rw [CR.toRights_sub]
  rcases m with ⟨pt, src, dst, promo⟩ | s
  · simp only [oppLoss, oppRights, homeSq_eq, dropRights_loss _ _ _ _ h70]
  · simp [oppLoss, oppRights, Spec.dropRights, CR.hasK, CR.hasQ]

/-! The `if new ≠ old` guards of `set_side_to_move` and `set_castling_rights` are no-ops: XOR-ing the same key out and in changes
nothing. -/

theorem setSideToMove_eq (b : Board) (c : Color) :
    b.setSideToMove K c = { b with hash := b.hash ^^^ K.stmKey b.stm ^^^ K.stmKey c, stm := c } := by
  unfold Board.setSideToMove Keys.stmKey
  by_cases h : c = b.stm
  · subst h; simp [BitVec.xor_assoc]
  · cases c <;> cases hs : b.stm <;> simp_all

theorem setCastlingRights_eq (b : Board) (c : Color) (r : CR) :
    b.setCastlingRights K c r =
      { b with hash := b.hash ^^^ K.castle c (b.rights c) ^^^ K.castle c r, rights := setFn b.rights c r } := by
  unfold Board.setCastlingRights
  by_cases h : b.rights c = r <;> simp [h, BitVec.xor_assoc]

theorem setEnPassant_eq (b : Board) (e : Option Sq) :
    b.setEnPassant K e = { b with hash := b.hash ^^^ K.epKey b.ep ^^^ K.epKey e, ep := e } := by
  unfold Board.setEnPassant Keys.epKey
  cases e <;> cases b.ep <;> simp

theorem updateMoveNumber_eq (b : Board) :
    b.updateMoveNumber = { b with full := if b.stm = .black then b.full + 1 else b.full } := by
  unfold Board.updateMoveNumber; split <;> rfl

theorem updateMovesSinceCapture_eq (b : Board) (m : Move) (ic : Bool) :
    b.updateMovesSinceCapture m ic = { b with half := if resetsClock m ic then 0 else b.half + 1 } := by
  unfold Board.updateMovesSinceCapture resetsClock; split
  · split <;> rfl
  · rfl

/-- the model's test and skipped square, computed on `Nat` ranks, are those of `epAfter` in integer coordinates -/
theorem updateEnPassant_eq (b : Board) (m : Move) : b.updateEnPassant K m = b.setEnPassant K (epAfter m) := by
  rcases m with ⟨pt, src, dst, promo⟩ | s
  · cases pt
    · have hsr : src.rank = (src.rk : Int) := rfl
      have hdr : dst.rank = (dst.rk : Int) := rfl
      have hdf : dst.file = (dst.fl : Int) := rfl
      have b1 : src.rk < 8 := by unfold Sq.rk; omega
      have b2 : dst.rk < 8 := by unfold Sq.rk; omega
      have b3 : dst.fl < 8 := by unfold Sq.fl; omega
      simp only [Board.updateEnPassant, epAfter, mkSq?, beq_self_eq_true, Bool.true_and, beq_iff_eq, hsr, hdr, hdf]
      by_cases hc : (if src.rk ≤ dst.rk then dst.rk - src.rk else src.rk - dst.rk) = 2
      · have hc' : ((dst.rk : Int) - (src.rk : Int)).natAbs = 2 := by split at hc <;> omega
        rw [if_pos hc, if_pos hc', dif_pos (by omega)]
        congr 3  -- the two squares have the same index
      · have hc' : ¬ ((dst.rk : Int) - (src.rk : Int)).natAbs = 2 := by split at hc <;> omega
        rw [if_neg hc, if_neg hc']
    all_goals rfl
  · rfl

/-- the guard `rights != Neither` of `update_castling_rights` is a no-op as well -/
theorem setCastlingRights_sub_guard (b : Board) (c : Color) (x : CR) :
    (if b.rights c != .neither then b.setCastlingRights K c ((b.rights c).sub x) else b) =
      b.setCastlingRights K c ((b.rights c).sub x) := by
  split
  · rfl
  · next h =>
    have h' : b.rights c = .neither := by simpa using h
    rw [setCastlingRights_eq, h', CR.neither_sub, ← h', setFn_self]
    simp [BitVec.xor_assoc]

theorem updateCastlingRights_eq (b : Board) (m : Move) :
    b.updateCastlingRights K m =
      (b.setCastlingRights K b.stm.other ((b.rights b.stm.other).sub (oppLoss b.stm.other m))).setCastlingRights K
        b.stm ((b.rights b.stm).sub (ownLoss b.stm m)) := by
  have e : ∀ x, (b.setCastlingRights K b.stm.other x).rights b.stm = b.rights b.stm := fun x =>
    setFn_other _ _ _ _ (Color.other_ne b.stm).symm
  cases m with
  | piece pt src dst promo =>
    simp only [Board.updateCastlingRights, setCastlingRights_sub_guard, oppLoss]
    rw [show (b.setCastlingRights K b.stm.other _).stm = b.stm from rfl, e]
    congr 2  -- what is left: the `match` of the model is `ownLoss`
  | castle s =>
    -- the model skips the opponent's step; taking `.neither` from the opponent's rights is the identity
    simp only [Board.updateCastlingRights, setCastlingRights_sub_guard, oppLoss, CR.sub_neither]
    rw [setCastlingRights_eq K b b.stm.other, setFn_self]
    simp [BitVec.xor_assoc, ownLoss]

@[simp] theorem setCastlingRights_rights (b : Board) (c : Color) (r : CR) :
    (b.setCastlingRights K c r).rights = setFn b.rights c r := rfl
@[simp] theorem setEnPassant_ep (b : Board) (e : Option Sq) : (b.setEnPassant K e).ep = e := rfl
@[simp] theorem setSideToMove_ep (b : Board) (c : Color) : (Board.setSideToMove K b c).ep = b.ep := by
  rw [setSideToMove_eq]
@[simp] theorem setSideToMove_stm (b : Board) (c : Color) : (b.setSideToMove K c).stm = c := by
  rw [setSideToMove_eq]
@[simp] theorem updateCastlingRights_ep (b : Board) (m : Move) : (Board.updateCastlingRights K b m).ep = b.ep := by
  rw [updateCastlingRights_eq]; rfl
@[simp] theorem updateCastlingRights_stm (b : Board) (m : Move) : (Board.updateCastlingRights K b m).stm = b.stm := by
  rw [updateCastlingRights_eq]; rfl
@[simp] theorem updateMoveNumber_ep (b : Board)  : (Board.updateMoveNumber b).ep = b.ep := by
  rw [updateMoveNumber_eq]
@[simp] theorem updateMovesSinceCapture_ep (b : Board) (m : Move) (ic : Bool) : (Board.updateMovesSinceCapture b m ic).ep = b.ep := by
  rw [updateMovesSinceCapture_eq]
theorem updateMovesSinceCapture_half_castle (b : Board) (s : Side) (ic : Bool) :
    (b.updateMovesSinceCapture (.castle s) ic).half = b.half + 1 := rfl

def Board.place (b : Board) (m : Move) : Board :=
  match m with
  | .piece pt src dst promo => (b.movePiece K pt src dst promo).clearIfEp K pt dst
  | .castle .king =>
    ((b.movePiece K .king (homeSq b.stm 4) (homeSq b.stm 6) none).movePiece K .rook (homeSq b.stm 7) (homeSq b.stm 5) none)
  | .castle .queen =>
    ((b.movePiece K .king (homeSq b.stm 4) (homeSq b.stm 2) none).movePiece K .rook (homeSq b.stm 0) (homeSq b.stm 3) none)

/-- the bookkeeping stage up to (not including) `update_pins_and_checks`: counters, rights, side, en-passant square
(no panic point apart from the counter overflow, which is outside C10) -/
def Board.finishPre (b1 : Board) (m : Move) (isCap : Bool) : Board :=
  ((((b1.updateMoveNumber.updateMovesSinceCapture m isCap).updateCastlingRights K m).setSideToMove K b1.stm.other
    ).updateEnPassant K m)

def Board.finish (b1 : Board) (m : Move) (isCap : Bool) : Board :=
  ((b1.finishPre K m isCap).updatePinsAndChecks).updateTerminalStatus K

theorem makeMoveUnchecked_eq (b : Board) (m : Move) :
    b.makeMoveUnchecked K m = (b.place K m).finish K m (b.isCapture m) := rfl

theorem movePiece_state (b : Board) (pt src dst promo) : SameState b (b.movePiece K pt src dst promo) := by
  unfold Board.movePiece; split
  · exact ⟨rfl, rfl, rfl, rfl, rfl⟩
  · exact (clearSquare_state K b src).trans (putPiece_state K _ _ dst)

theorem clearIfEp_state (b : Board) (pt dst) : SameState b (b.clearIfEp K pt dst) := by
  unfold Board.clearIfEp; split
  · split
    · exact clearSquare_state K b _
    · exact ⟨rfl, rfl, rfl, rfl, rfl⟩
  · exact ⟨rfl, rfl, rfl, rfl, rfl⟩

theorem place_state (b : Board) (m : Move) : SameState b (b.place K m) := by
  rcases m with _ | (_ | _)
  · exact (movePiece_state K b _ _ _ _).trans (clearIfEp_state K _ _ _)
  all_goals exact (movePiece_state K b _ _ _ _).trans (movePiece_state K _ _ _ _ _)

@[simp] theorem place_ep (b : Board) (m : Move) : (b.place K m).ep = b.ep := (place_state K b m).ep

/-- `move_piece` does not look at the type of the man it lifts: `pt` only names what lands (unless `promo` does) -/
theorem Rep.movePiece {b : Board} {f} (h : Rep b f) (pt : PT) (src dst : Sq) (promo : Option PT) (q : Piece)
    (hs : f src = some q) :
    Rep (b.movePiece K pt src dst promo) (Spec.upd (Spec.upd f src none) dst (some ⟨promo.getD pt, q.c⟩)) := by
  unfold Board.movePiece
  rw [h.getPieceColorOn, hs]
  exact (h.clearSquare K src).putPiece K _ dst

theorem isEpMove_eq (b : Board) (pt : PT) (dst : Sq) : b.isEpMove pt dst = (pt == .pawn && b.ep == some dst) := by
  unfold Board.isEpMove
  cases b.ep with
  | none => simp
  | some e => simp [Bool.beq_comm (a := dst)]

theorem epVictim_eq (c : Color) (dst : Sq) : Board.epVictim c dst = mkSq? (dst.rank - Spec.fwd c) dst.file := by
  cases c <;> rfl

theorem Rep.clearIfEp {b : Board} {f} (h : Rep b f) (pt : PT) (dst : Sq) :
    Rep (b.clearIfEp K pt dst)
      (if pt == .pawn && b.ep == some dst then
        match mkSq? (dst.rank - Spec.fwd b.stm) dst.file with
        | some v => Spec.upd f v none
        | none => f
       else f) := by
  unfold Board.clearIfEp
  rw [isEpMove_eq, epVictim_eq]
  split
  · cases mkSq? (dst.rank - Spec.fwd b.stm) dst.file with
    | some v => exact h.clearSquare K _
    | none => exact h
  · exact h

/-- the squares a move lifts men from hold men of the mover's colour (all that the placement stage needs) -/
def moverOnSource (p : Spec.Pos) : Move → Bool
  | .piece _ src _ _ => Spec.isColor p.board p.stm src
  | .castle .king => Spec.isColor p.board p.stm (homeSq p.stm 4) && Spec.isColor p.board p.stm (homeSq p.stm 7)
  | .castle .queen => Spec.isColor p.board p.stm (homeSq p.stm 4) && Spec.isColor p.board p.stm (homeSq p.stm 0)

theorem Rep.castle {b : Board} {f} (h : Rep b f) (c : Color) (e rf kt rt : Sq)
    (hk : Spec.isColor f c e = true) (hr : Spec.isColor f c rf = true) (h1 : rf ≠ e) (h2 : rf ≠ kt) :
    Rep ((b.movePiece K .king e kt none).movePiece K .rook rf rt none) (castled f c e rf kt rt) := by
  obtain ⟨qk, hqk, rfl⟩ := (isColor_iff _ _ _).1 hk
  obtain ⟨qr, hqr, hrc⟩ := (isColor_iff _ _ _).1 hr
  have R := (h.movePiece K .king e kt none qk hqk).movePiece K .rook rf rt none qr (by simp [Spec.upd, h1, h2, hqr])
  -- the model lifts the rook after the king has landed, the specification before (`rf ≠ kt`)
  have e : Spec.upd (Spec.upd (Spec.upd f e none) kt (some ⟨.king, qk.c⟩)) rf none =
      Spec.upd (Spec.upd (Spec.upd f e none) rf none) kt (some ⟨.king, qk.c⟩) := by
    funext x; simp only [Spec.upd]; by_cases a : x = rf <;> by_cases b : x = kt <;> simp_all
  rwa [hrc, Option.getD_none, Option.getD_none, e] at R

theorem Board.Cons.place {b : Board} (h : b.Cons) (m : Move) (hm : moverOnSource b.absPos m = true) :
    Rep (b.place K m) (Spec.applyBoard b.absPos m) := by
  have h : Rep b b.abs := h
  rcases m with ⟨pt, src, dst, promo⟩ | (_ | _)
  · obtain ⟨q, hq, hc⟩ := (isColor_iff _ _ _).1 hm
    have R := (h.movePiece K pt src dst promo q hq).clearIfEp K pt dst
    rw [(movePiece_state K b pt src dst promo).ep, (movePiece_state K b pt src dst promo).stm, show q.c = b.stm from hc] at R
    exact R
  all_goals
    simp only [moverOnSource, Bool.and_eq_true, homeSq_eq] at hm
    simp only [Board.place, homeSq_eq, applyBoard_castle]
    exact h.castle K b.stm _ _ _ _ hm.1 hm.2 hsq_ne hsq_ne

theorem Board.Cons.afterPieceMove {b : Board} (h : b.Cons) (pt : PT) (src dst : Sq) (promo : Option PT)
    (hsrc : b.abs src = some ⟨pt, b.stm⟩) :
    Rep ((b.movePiece K pt src dst promo).clearIfEp K pt dst) (Spec.applyBoard b.absPos (.piece pt src dst promo)) :=
  h.place K (.piece pt src dst promo) (by simp [moverOnSource, Spec.isColor, Board.absPos, hsrc])

def rightsAfter (b : Board) (m : Move) : Color → CR :=
  setFn (setFn b.rights b.stm.other ((b.rights b.stm.other).sub (oppLoss b.stm.other m)))
    b.stm ((b.rights b.stm).sub (ownLoss b.stm m))

/-- the recomputed fields (pins, checks, terminal flag) and the hash are left as they come -/
theorem finish_eq (b : Board) (m : Move) (ic : Bool) :
    b.finish K m ic =
      { b with stm := b.stm.other, rights := rightsAfter b m, ep := epAfter m,
               half := if resetsClock m ic then 0 else b.half + 1,
               full := if b.stm = .black then b.full + 1 else b.full,
               pinned := (b.finish K m ic).pinned, checks := (b.finish K m ic).checks,
               term := (b.finish K m ic).term, hash := (b.finish K m ic).hash } := by
  simp only [Board.finish, Board.finishPre, updateEnPassant_eq, updateCastlingRights_eq, setSideToMove_eq, setCastlingRights_eq,
    setEnPassant_eq, updateMovesSinceCapture_eq, updateMoveNumber_eq]
  rfl

theorem Rep.finish {b1 : Board} {f} (h : Rep b1 f) (m : Move) (ic : Bool) : Rep (b1.finish K m ic) f := by
  rw [finish_eq]; exact ⟨h.pcs, h.cls, h.cmb⟩

theorem rightsAfter_toRights (b : Board) (m : Move) (x : Color) :
    (rightsAfter b m x).toRights =
      if x = b.stm then ownRights (b.rights b.stm).toRights b.stm m
      else oppRights (b.rights b.stm.other).toRights b.stm.other m := by
  unfold rightsAfter
  by_cases hx : x = b.stm
  · subst hx; rw [setFn_same, if_pos rfl, toRights_sub_ownLoss]
  · rw [setFn_other _ _ _ _ hx, if_neg hx, (Color.eq_or_eq_other b.stm x).resolve_left hx, setFn_same, toRights_sub_oppLoss]

theorem finish_absPos (b : Board) (m : Move) (ic : Bool) :
    (b.finish K m ic).absPos =
      { board := b.abs, stm := b.stm.other,
        rights := fun x =>
          if x = b.stm then ownRights (b.rights b.stm).toRights b.stm m
          else oppRights (b.rights b.stm.other).toRights b.stm.other m,
        ep := epAfter m,
        half := if resetsClock m ic then 0 else b.half + 1,
        full := if b.stm = .black then b.full + 1 else b.full } := by
  rw [finish_eq]
  exact Spec.Pos.ext' rfl rfl (funext (rightsAfter_toRights b m)) rfl rfl rfl

theorem Board.Cons.isCapture {b : Board} (h : b.Cons) (m : Move) : b.isCapture m = Spec.isCapture b.absPos m := by
  cases m with
  | castle s => rfl
  | piece pt src dst promo =>
    simp only [Board.isCapture, Spec.isCapture, Board.absPos]
    rw [BitVec.and_comm, isBlank_and_bbOf, h.cls, isEpMove_eq]
    cases b.abs dst with
    | none => rfl
    | some q => simp only [Bool.not_not, Color.beq_other]

end Chess

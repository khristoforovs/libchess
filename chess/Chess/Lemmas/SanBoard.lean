import Chess.Lemmas.San
import Chess.Lemmas.LegalJoin
/-! SAN, board-level facts for C14: who the rivals of `get_move_ambiguity_type` are, and why two own pawns on one file, or
two own kings, never compete for a square. -/
namespace Chess
open Board
namespace Board
variable (K : Keys)

theorem mem_rivals (b : Board) (pt : PT) (src dst s : Sq) :
    s ∈ b.rivals K pt src dst ↔ s ≠ src ∧ ∃ pr, Move.piece pt s dst pr ∈ b.getLegalMoves K := by
  unfold rivals
  rw [List.mem_filterMap]
  constructor
  · rintro ⟨m, hm, h⟩
    cases m with
    | castle sd => simp at h
    | piece pt' s' d' pr =>
      simp only [Option.ite_none_right_eq_some, Bool.and_eq_true, beq_iff_eq, bne_iff_ne, ne_eq, Option.some.injEq] at h
      obtain ⟨⟨⟨rfl, rfl⟩, hne⟩, rfl⟩ := h
      exact ⟨hne, pr, hm⟩
  · rintro ⟨hne, pr, hm⟩
    exact ⟨_, hm, by simp [hne]⟩

theorem legal_nonpawn_promo (b : Board) (pt : PT) (src dst : Sq) (promo : Option PT) (hp : pt ≠ .pawn)
    (h : b.isLegalMove K (.piece pt src dst promo) = true) : promo = none := by
  obtain ⟨-, -, -, hshape, -⟩ := (isLegalMove_piece_iff b pt src dst promo).1 h
  rw [beq_false_of_ne hp, Bool.false_and] at hshape
  cases promo with
  | none => rfl
  | some t => simp at hshape

end Board

open C17 in
theorem mem_pawnMask (b : Board) (s d : Sq) (h : mem d (b.pieceMovesMask .pawn s) = true) :
    (df s d = 0 ∧ dr s d = Spec.fwd b.stm) ∨
    (df s d = 0 ∧ dr s d = 2 * Spec.fwd b.stm ∧ ∃ t, df s t = 0 ∧ dr s t = Spec.fwd b.stm ∧ mem t b.combined = false) ∨
    (dr s d = Spec.fwd b.stm ∧ (df s d).natAbs = 1) := by
  simp only [pieceMovesMask, mem_or, mem_and, mem_not, Bool.or_eq_true, Bool.and_eq_true] at h
  rcases h with (h | h) | h
  · left
    have := h.1; rw [pawn_push_spec] at this
    simpa using this
  · right; left
    by_cases hb : isBlank (pawnPush b.stm s &&& ~~~b.combined) = true
    · simp [hb] at h
    · simp only [hb, Bool.false_eq_true, if_false, mem_and, mem_not, Bool.and_eq_true] at h
      have h1 := h.1; rw [pawn_double_spec] at h1
      simp only [Bool.and_eq_true, beq_iff_eq] at h1
      -- the double push is offered only when the single-push mask is not blank: its member `t` is the empty square in front
      rw [isBlank_eq_not_any, Bool.not_eq_true', Bool.not_eq_false, List.any_eq_true] at hb
      obtain ⟨t, _, ht⟩ := hb
      simp only [mem_and, mem_not, Bool.and_eq_true, pawn_push_spec, beq_iff_eq, Bool.not_eq_true'] at ht
      exact ⟨h1.1.1, h1.1.2, t, ht.1.1, ht.1.2, ht.2⟩
  · right; right
    have := h.1; rw [pawn_capture_spec] at this
    simpa using this

open C17 in
/-- two own men on one file cannot both be pawns reaching the same square: the double push needs the square in
front of the pawn empty -/
theorem pawn_unique (b : Board) (hocc : ∀ s, mem s (b.colors b.stm) = true → mem s b.combined = true)
    (s₁ s₂ d : Sq) (hf : s₁.fl = s₂.fl)
    (ho₁ : mem s₁ (b.colors b.stm) = true) (ho₂ : mem s₂ (b.colors b.stm) = true)
    (h₁ : mem d (b.pieceMovesMask .pawn s₁) = true) (h₂ : mem d (b.pieceMovesMask .pawn s₂) = true) : s₁ = s₂ := by
  have hfile : s₁.file = s₂.file := by unfold Sq.file; unfold Sq.fl at hf; omega
  have g₁ := mem_pawnMask b s₁ d h₁
  have g₂ := mem_pawnMask b s₂ d h₂
  have hfw : Spec.fwd b.stm = 1 ∨ Spec.fwd b.stm = -1 := by cases b.stm <;> simp [Spec.fwd]
  simp only [df, dr] at g₁ g₂
  -- the single-push square of the double pusher is the other pawn's square, which is occupied
  have key : ∀ (a c : Sq), a.file = c.file → mem c (b.colors b.stm) = true → d.rank - c.rank = Spec.fwd b.stm →
      d.rank - a.rank = 2 * Spec.fwd b.stm →
      (∃ t : Sq, t.file - a.file = 0 ∧ t.rank - a.rank = Spec.fwd b.stm ∧ mem t b.combined = false) → False := by
    intro a c hac hc h1 h2 ⟨t, ht1, ht2, ht3⟩
    have : t = c := sq_ext (by omega) (by omega)
    subst this
    rw [hocc _ hc] at ht3; cases ht3
  -- push, double push or capture of `s₁` against the same of `s₂`: equal shapes start from the same rank; a capture leaves
  -- the file, a push does not (`omega`); a push against a double push is `key`
  rcases g₁ with ⟨a1, a2⟩ | ⟨a1, a2, a3⟩ | ⟨a1, a2⟩ <;> rcases g₂ with ⟨c1, c2⟩ | ⟨c1, c2, c3⟩ | ⟨c1, c2⟩
  · exact sq_ext (by omega) hfile
  · exact (key s₂ s₁ hfile.symm ho₁ a2 c2 c3).elim
  · omega
  · exact (key s₁ s₂ hfile ho₂ c2 a2 a3).elim
  · exact sq_ext (by omega) hfile
  · omega
  · omega
  · omega
  · exact sq_ext (by omega) hfile

theorem king_unique_of_valid {K : Keys} {b : Board} (hv : b.Valid K) (s₁ s₂ : Sq)
    (h₁ : mem s₁ (b.pieces .king) = true ∧ mem s₁ (b.colors b.stm) = true)
    (h₂ : mem s₂ (b.pieces .king) = true ∧ mem s₂ (b.colors b.stm) = true) : s₁ = s₂ := by
  obtain ⟨k, _, _, hu⟩ := validPos_theKing hv.pos b.stm
  have conv : ∀ s, mem s (b.pieces .king) = true ∧ mem s (b.colors b.stm) = true → b.abs s = some ⟨.king, b.stm⟩ := by
    intro s ⟨hk, hc⟩
    have := (hv.cons : Rep b b.abs).mem_man .king b.stm s
    rw [mem_and, hk, hc] at this
    exact beq_iff_eq.1 this.symm
  rw [hu _ (conv _ h₁), hu _ (conv _ h₂)]

theorem own_occ_of_cons {b : Board} (hc : b.Cons) (s : Sq) (h : mem s (b.colors b.stm) = true) : mem s b.combined = true := by
  have hr : Rep b b.abs := hc
  rw [hr.cls] at h; rw [hr.cmb]
  cases hp : b.abs s with
  | none => rw [hp] at h; cases h
  | some p => rfl

end Chess

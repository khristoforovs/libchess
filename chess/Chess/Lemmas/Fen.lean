import Chess.Lemmas.Split
/-! Lemmas for C08: the placement cursor of `parseFen` (`Upto`), `printRank` as a run-length encoding (`rle`). -/
namespace Chess.Fen
open Chess

theorem parseUsize_digits (ds : Str) (hne : ds ≠ []) (hd : ∀ c ∈ ds, c.isDigit = true) :
    parseUsize ds = if Nat.ofDigitChars 10 ds 0 < 2 ^ 64 then some (Nat.ofDigitChars 10 ds 0) else none := by
  unfold parseUsize
  split
  · exact absurd (hd '+' (by simp)) (by decide)
  · simp only [List.isEmpty_iff, hne, List.all_eq_true.mpr hd, Nat.ofDigitChars, Nat.mul_comm, if_true, if_false]

theorem parseUsize_natStr (n : Nat) (h : n < 2 ^ 64) : parseUsize (natStr n) = some n := by
  rw [parseUsize_digits _ (natStr_ne_nil n) (natStr_isDigit n), natStr_eq, Nat.ofDigitChars_ten_toDigits, if_pos h]

/-- the placement loop of `parseFen` -/
def run (st : Option FenCursor) (s : Str) : Option FenCursor :=
  s.foldl (fun (st : Option FenCursor) c => st.bind (fenStep · c)) st

theorem run_append (st : Option FenCursor) (a b : Str) : run st (a ++ b) = run (run st a) b := by
  simp [run, List.foldl_append]
theorem run_cons (c : FenCursor) (x : Char) (xs : Str) : run (some c) (x :: xs) = run (fenStep c x) xs := rfl

/-- what the branches of `fenStep` ask of a piece letter, in the order of the branches -/
theorem pieceChar_facts : ∀ p : Piece, pieceChar p ≠ '/' ∧ ¬('1' ≤ pieceChar p ∧ pieceChar p ≤ '8') ∧
    pieceChar p ∈ ['r', 'R', 'n', 'N', 'b', 'B', 'q', 'Q', 'k', 'K', 'p', 'P'] ∧
    (if (pieceChar p).isUpper then Color.white else Color.black) = p.c ∧
    parsePieceType [pieceChar p] = .ok p.pt := by
  rintro ⟨t, c⟩; cases t <;> cases c <;> decide

theorem pieceChar_ne_space : ∀ p : Piece, pieceChar p ≠ ' ' := by
  rintro ⟨t, c⟩; cases t <;> cases c <;> decide

theorem fenStep_piece (cur : FenCursor) (p : Piece) :
    ∃ cur', fenStep cur (pieceChar p) = some cur' ∧
      cur'.pieces = setFn cur.pieces ⟨cur.rank.val * 8 + cur.file.val, by omega⟩ (some p) ∧
      cur'.rank = cur.rank ∧ cur'.file.val = min (cur.file.val + 1) 7 := by
  obtain ⟨h1, h2, h3, h4, h5⟩ := pieceChar_facts p
  unfold fenStep
  rw [if_neg h1, if_neg h2, if_pos h3]
  simp only [h4, h5]
  split
  all_goals
    refine ⟨_, rfl, rfl, rfl, ?_⟩
    simp
    omega

theorem digitChar_facts : ∀ e : Fin 9, 1 ≤ e.val →
    e.val.digitChar ≠ '/' ∧ ('1' ≤ e.val.digitChar ∧ e.val.digitChar ≤ '8') ∧
    e.val.digitChar.toNat - '0'.toNat = e.val := by decide

theorem fenStep_digit (cur : FenCursor) (e : Nat) (he1 : 1 ≤ e) (he8 : e ≤ 8) :
    ∃ cur', fenStep cur e.digitChar = some cur' ∧ cur'.pieces = cur.pieces ∧ cur'.rank = cur.rank ∧
      cur'.file.val = if cur.file.val + e < 8 then cur.file.val + e else cur.file.val := by
  obtain ⟨h1, h2, h3⟩ := digitChar_facts ⟨e, by omega⟩ he1
  simp only at h1 h2 h3
  unfold fenStep
  rw [if_neg h1, if_pos h2]
  simp only [h3]
  split
  · exact ⟨_, rfl, rfl, rfl, rfl⟩
  · exact ⟨_, rfl, rfl, rfl, rfl⟩

theorem fenStep_slash (cur : FenCursor) (h : cur.rank.val ≠ 0) :
    ∃ cur', fenStep cur '/' = some cur' ∧ cur'.pieces = cur.pieces ∧ cur'.rank.val = cur.rank.val - 1 ∧
      cur'.file.val = 0 := by
  unfold fenStep
  simp [h]

/-- the cursor stands in rank `r` before file `k` (`k = 8`: the rank is complete), having placed exactly the men of
`T` that come earlier in reading order (rank 8 first, file a first) -/
structure Upto (T : Sq → Option Piece) (r : Fin 8) (k : Nat) (c : FenCursor) : Prop where
  rank : c.rank = r
  file : k < 8 → c.file.val = k
  pieces : ∀ sq : Sq, c.pieces sq = if r.val < sq.val / 8 ∨ (sq.val / 8 = r.val ∧ sq.val % 8 < k) then T sq else none

theorem Upto.init (T : Sq → Option Piece) : Upto T 7 0 { pieces := fun _ => none, rank := 7, file := 0 } := by
  refine ⟨rfl, fun _ => rfl, fun sq => ?_⟩
  rw [if_neg]; have := sq.isLt; simp; omega

theorem Upto.final {T c} (h : Upto T 0 8 c) : c.pieces = T := by
  funext sq; rw [h.pieces, if_pos]; simp; omega

theorem Upto.piece {T r k c} (h : Upto T r k c) (hk : k < 8) {p : Piece} (hp : T ⟨r.val * 8 + k, by omega⟩ = some p) :
    ∃ c', fenStep c (pieceChar p) = some c' ∧ Upto T r (k + 1) c' := by
  obtain ⟨c', e, e1, e2, e3⟩ := fenStep_piece c p
  refine ⟨c', e, e2.trans h.rank, fun _ => by rw [e3, h.file hk]; omega, fun sq => ?_⟩
  have hsq : (⟨c.rank.val * 8 + c.file.val, by omega⟩ : Sq) = ⟨r.val * 8 + k, by omega⟩ := by
    simp only [h.rank, h.file hk]
  rw [e1, hsq]
  by_cases hs : sq = ⟨r.val * 8 + k, by omega⟩
  · rw [hs, setFn_same, hp, if_pos]; simp only; omega
  · have : ¬ (sq.val / 8 = r.val ∧ sq.val % 8 = k) := fun ⟨a, b⟩ => hs (Fin.ext (by simp only; omega))
    rw [setFn_other _ _ _ _ hs, h.pieces]
    congr 1; apply propext; omega

theorem Upto.digit {T r k c} (h : Upto T r k c) {n : Nat} (h1 : 1 ≤ n) (hn : k + n ≤ 8)
    (he : ∀ sq : Sq, sq.val / 8 = r.val → k ≤ sq.val % 8 → sq.val % 8 < k + n → T sq = none) :
    ∃ c', fenStep c n.digitChar = some c' ∧ Upto T r (k + n) c' := by
  obtain ⟨c', e, e1, e2, e3⟩ := fenStep_digit c n h1 (by omega)
  refine ⟨c', e, e2.trans h.rank, fun hk => by rw [e3, h.file (by omega), if_pos hk], fun sq => ?_⟩
  rw [e1, h.pieces]
  by_cases hs : sq.val / 8 = r.val ∧ k ≤ sq.val % 8 ∧ sq.val % 8 < k + n
  · rw [he sq hs.1 hs.2.1 hs.2.2]; simp
  · congr 1; apply propext; omega

theorem Upto.slash {T r c} (h : Upto T r 8 c) {r' : Fin 8} (hr : r.val = r'.val + 1) :
    ∃ c', fenStep c '/' = some c' ∧ Upto T r' 0 c' := by
  obtain ⟨c', e, e1, e2, e3⟩ := fenStep_slash c (by rw [h.rank]; omega)
  refine ⟨c', e, Fin.ext (by rw [e2, h.rank]; omega), fun _ => e3, fun sq => ?_⟩
  rw [e1, h.pieces]
  congr 1; apply propext; omega

/-- the loop of `printRank` read by the cursor of `parseFen`, as a statement: after files `0..f-1`, with `acc.2` empty squares
pending, the text `acc.1` has moved the cursor from `c0` over exactly the squares written so far -/
structure RInv (P : Sq → Option Piece) (r : Fin 8) (c0 : FenCursor) (f : Nat) (acc : Str × Nat) : Prop where
  e_le : acc.2 ≤ f
  nosp : ' ' ∉ acc.1
  empties : ∀ sq : Sq, sq.val / 8 = r.val → f - acc.2 ≤ sq.val % 8 → sq.val % 8 < f → P sq = none
  parsed : ∃ cur, run (some c0) acc.1 = some cur ∧ cur.rank = r ∧ cur.file.val = min (f - acc.2) 7 ∧
    ∀ sq : Sq, cur.pieces sq =
      if r.val < sq.val / 8 ∨ (sq.val / 8 = r.val ∧ sq.val % 8 < f - acc.2) then P sq else none

/-- the printer's per-file step (the local `step` of `printRank`) -/
def pstep (P : Sq → Option Piece) (r : Fin 8) (acc : Str × Nat) (f : Fin 8) : Str × Nat :=
  match P ⟨r.val * 8 + f.val, by omega⟩ with
  | some p => ((if acc.2 != 0 then acc.1 ++ natStr acc.2 else acc.1) ++ [pieceChar p], 0)
  | none => (acc.1, acc.2 + 1)

/-- run-length encoding of a rank, `e` empty squares pending -/
def rle : Nat → List (Option Piece) → Str
  | e, [] => if e != 0 then natStr e else []
  | e, none :: l => rle (e + 1) l
  | e, some p :: l => (if e != 0 then natStr e else []) ++ pieceChar p :: rle 0 l

/-- the squares of rank `r`, file a first -/
def rankCells (P : Sq → Option Piece) (r : Fin 8) : List (Option Piece) :=
  (List.finRange 8).map fun f => P ⟨r.val * 8 + f.val, by omega⟩

theorem foldl_pstep (P : Sq → Option Piece) (r : Fin 8) (fs : List (Fin 8)) (s : Str) (e : Nat) :
    (if (fs.foldl (pstep P r) (s, e)).2 != 0
      then (fs.foldl (pstep P r) (s, e)).1 ++ natStr (fs.foldl (pstep P r) (s, e)).2
      else (fs.foldl (pstep P r) (s, e)).1) =
    s ++ rle e (fs.map fun f => P ⟨r.val * 8 + f.val, by omega⟩) := by
  induction fs generalizing s e with
  | nil => simp only [List.foldl_nil, List.map_nil, rle]; split <;> simp_all
  | cons f fs ih =>
    rw [List.foldl_cons, List.map_cons, pstep]
    cases P ⟨r.val * 8 + f.val, by omega⟩ with
    | none => exact ih _ _
    | some p => rw [ih, rle]; split <;> simp

/-- `printRank` is, by definition, the fold of `pstep` over the eight files followed by the flush of the pending count:
the left side of `foldl_pstep` -/
theorem printRank_eq_rle (P : Sq → Option Piece) (r : Fin 8) : printRank P r = rle 0 (rankCells P r) :=
  (foldl_pstep P r (List.finRange 8) [] 0).trans (List.nil_append _)

theorem not_mem_rle {x : Char} (hp : ∀ p, pieceChar p ≠ x) (hd : x.isDigit = false) :
    ∀ (l : List (Option Piece)) (e : Nat), x ∉ rle e l
  | [], e => by rw [rle]; split; exact not_mem_natStr _ _ hd; simp
  | none :: l, e => by rw [rle]; exact not_mem_rle hp hd l _
  | some p :: l, e => by
    rw [rle]
    simp only [List.mem_append, List.mem_cons, not_or]
    refine ⟨?_, fun h => hp p h.symm, not_mem_rle hp hd l _⟩
    split; exact not_mem_natStr _ _ hd; simp

theorem slash_not_mem_printRank (P : Sq → Option Piece) (r : Fin 8) : '/' ∉ printRank P r :=
  printRank_eq_rle P r ▸ not_mem_rle (fun p => (pieceChar_facts p).1) (by decide) _ _

theorem space_not_mem_printRank (P : Sq → Option Piece) (r : Fin 8) : ' ' ∉ printRank P r :=
  printRank_eq_rle P r ▸ not_mem_rle pieceChar_ne_space (by decide) _ _

/-- the placement field of `printFen` -/
def placement (P : Sq → Option Piece) : Str :=
  ([7, 6, 5, 4, 3, 2, 1, 0] : List (Fin 8)).foldl
    (fun acc r => (if r.val != 7 then acc ++ ['/'] else acc) ++ printRank P r) []

theorem placement_eq (P : Sq → Option Piece) :
    placement P = joinSep '/' (([7, 6, 5, 4, 3, 2, 1, 0] : List (Fin 8)).map (printRank P)) := by
  simp +decide [placement, joinSep]

def stmText (c : Color) : Str := [match c with | .white => 'w' | .black => 'b']
def castlesText (w b : CR) : Str :=
  if w = .neither ∧ b = .neither then ['-'] else (w.show.map Char.toUpper) ++ b.show
def epText (ep : Option Sq) : Str := match ep with | some s => printSquare s | none => ['-']

theorem space_not_mem_placement (P : Sq → Option Piece) : ' ' ∉ placement P := by
  simp [placement_eq, joinSep, space_not_mem_printRank]

theorem space_not_mem_stmText (c : Color) : ' ' ∉ stmText c := by cases c <;> decide

theorem space_not_mem_castlesText (w b : CR) : ' ' ∉ castlesText w b := by cases w <;> cases b <;> decide

theorem space_not_mem_epText (ep : Option Sq) : ' ' ∉ epText ep := by
  cases ep with
  | none => decide
  | some s => exact (by decide : ∀ s : Sq, ' ' ∉ printSquare s) s

theorem printFen_eq (bb : Builder) : printFen bb =
    placement bb.pieces ++ [' '] ++ stmText bb.stm ++ [' '] ++ castlesText (bb.rights .white) (bb.rights .black) ++
      [' '] ++ epText bb.ep ++ [' '] ++ natStr bb.half ++ [' '] ++ natStr bb.full := rfl
end Chess.Fen

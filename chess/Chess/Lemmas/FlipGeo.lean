import Chess.Lemmas.Rules
namespace Chess
open Spec

/-- rank mirror: a1 ↔ a8 -/
def flipSq (s : Sq) : Sq := ⟨(7 - s.val/8)*8 + s.val%8, by omega⟩
/-- file mirror: a1 ↔ h1 -/
def mirSq (s : Sq) : Sq := ⟨(s.val/8)*8 + (7 - s.val%8), by omega⟩

theorem flipSq_rank (s : Sq) : (flipSq s).rank = 7 - s.rank := by
  unfold flipSq Sq.rank; simp only; omega
theorem flipSq_file (s : Sq) : (flipSq s).file = s.file := by
  unfold flipSq Sq.file; simp only; omega
theorem mirSq_rank (s : Sq) : (mirSq s).rank = s.rank := by
  unfold mirSq Sq.rank; simp only; omega
theorem mirSq_file (s : Sq) : (mirSq s).file = 7 - s.file := by
  unfold mirSq Sq.file; simp only; omega

theorem neg_beq_zero (x : Int) : (-x == 0) = (x == 0) := by
  rw [Bool.eq_iff_iff]; simp
theorem neg_beq_neg (x y : Int) : (-x == -y) = (x == y) := by
  rw [Bool.eq_iff_iff]; simp
theorem sbCore_negR (ne : Bool) (dr df er ef : Int) : sbCore ne (-dr) df (-er) ef = sbCore ne dr df er ef := by
  unfold sbCore
  simp [Int.neg_mul, Int.mul_neg, Int.natAbs_neg, neg_beq_zero, neg_beq_neg]
theorem sbCore_negF (ne : Bool) (dr df er ef : Int) : sbCore ne dr (-df) er (-ef) = sbCore ne dr df er ef := by
  unfold sbCore
  simp [Int.neg_mul, Int.mul_neg, Int.natAbs_neg, neg_beq_zero, neg_beq_neg]

theorem mirror_sub (x y : Int) : 7 - x - (7 - y) = -(x - y) := by omega
theorem mirror_beq (x y : Int) : (7 - x == 7 - y) = (x == y) := by
  rw [Bool.eq_iff_iff, beq_iff_eq, beq_iff_eq]; omega
theorem pawnRank_other (c : Color) : pawnRank c.other = 7 - pawnRank c := by cases c <;> rfl
theorem lastRank_other (c : Color) : lastRank c.other = 7 - lastRank c := by cases c <;> rfl

theorem flipSq_flipSq (s : Sq) : flipSq (flipSq s) = s :=
  sq_ext (by rw [flipSq_rank, flipSq_rank]; omega) (by rw [flipSq_file, flipSq_file])
theorem mirSq_mirSq (s : Sq) : mirSq (mirSq s) = s :=
  sq_ext (by rw [mirSq_rank, mirSq_rank]) (by rw [mirSq_file, mirSq_file]; omega)
theorem flipSq_mirSq (s : Sq) : flipSq (mirSq s) = mirSq (flipSq s) :=
  sq_ext (by rw [flipSq_rank, mirSq_rank, mirSq_rank, flipSq_rank]) (by rw [flipSq_file, mirSq_file, mirSq_file, flipSq_file])
theorem bne_of_invol {σ : Sq → Sq} (h : ∀ s, σ (σ s) = s) (a b : Sq) : (σ a != σ b) = (a != b) := by
  have : σ a = σ b ↔ a = b := ⟨fun e => by rw [← h a, e, h], fun e => e ▸ rfl⟩
  rw [Bool.eq_iff_iff]; simp [this]
theorem flipSq_bne (a b : Sq) : (flipSq a != flipSq b) = (a != b) := bne_of_invol flipSq_flipSq a b
theorem mirSq_bne (a b : Sq) : (mirSq a != mirSq b) = (a != b) := bne_of_invol mirSq_mirSq a b

theorem strictlyBetween_flipSq (a c b : Sq) :
    strictlyBetween (flipSq a) (flipSq c) (flipSq b) = strictlyBetween a c b := by
  -- in terms of coordinate differences (`sbCore`) the mirror negates the two rank differences and nothing else
  simp only [strictlyBetween_eq, flipSq_rank, flipSq_file, flipSq_bne, mirror_sub, sbCore_negR]
theorem strictlyBetween_mirSq (a c b : Sq) :
    strictlyBetween (mirSq a) (mirSq c) (mirSq b) = strictlyBetween a c b := by
  simp only [strictlyBetween_eq, mirSq_rank, mirSq_file, mirSq_bne, mirror_sub, sbCore_negF]

theorem orthogonal_flipSq (a b : Sq) : orthogonal (flipSq a) (flipSq b) = orthogonal a b := by
  simp only [orthogonal, flipSq_bne, flipSq_rank, flipSq_file, mirror_beq]
theorem orthogonal_mirSq (a b : Sq) : orthogonal (mirSq a) (mirSq b) = orthogonal a b := by
  simp only [orthogonal, mirSq_bne, mirSq_rank, mirSq_file, mirror_beq]
theorem diagonal_flipSq (a b : Sq) : diagonal (flipSq a) (flipSq b) = diagonal a b := by
  simp only [diagonal, flipSq_bne, flipSq_rank, flipSq_file, mirror_sub, Int.natAbs_neg]
theorem diagonal_mirSq (a b : Sq) : diagonal (mirSq a) (mirSq b) = diagonal a b := by
  simp only [diagonal, mirSq_bne, mirSq_rank, mirSq_file, mirror_sub, Int.natAbs_neg]

theorem mkSq?_map {σ : Sq → Sq} {ρ φ : Int → Int} (hσ : ∀ s, σ (σ s) = s) (hr : ∀ s, (σ s).rank = ρ s.rank)
    (hf : ∀ s, (σ s).file = φ s.file) (r f : Int) (hρ : ρ (ρ r) = r) (hφ : φ (φ f) = f) :
    mkSq? (ρ r) (φ f) = (mkSq? r f).map σ := by
  ext s
  simp only [Option.map_eq_some_iff, mkSq?_eq_some_iff]
  constructor
  · rintro ⟨h1, h2⟩
    exact ⟨σ s, ⟨by rw [hr, h1, hρ], by rw [hf, h2, hφ]⟩, hσ s⟩
  · rintro ⟨t, ⟨h1, h2⟩, rfl⟩
    rw [hr, hf, h1, h2]
    exact ⟨rfl, rfl⟩

theorem mkSq?_flipSq (r f : Int) : mkSq? (7 - r) f = (mkSq? r f).map flipSq :=
  mkSq?_map (ρ := (7 - ·)) (φ := id) flipSq_flipSq flipSq_rank flipSq_file r f (by omega) rfl
theorem mkSq?_mirSq (r f : Int) : mkSq? r (7 - f) = (mkSq? r f).map mirSq :=
  mkSq?_map (ρ := id) (φ := (7 - ·)) mirSq_mirSq mirSq_rank mirSq_file r f rfl (by omega)

def mapPiece (κ : Color → Color) (q : Piece) : Piece := ⟨q.pt, κ q.c⟩

/-- A board symmetry: square involution `σ`, colour involution `κ`, and the geometric facts used by the rules. -/
structure Sym where
  σ : Sq → Sq
  κ : Color → Color
  σσ : ∀ s, σ (σ s) = s
  κκ : ∀ c, κ (κ c) = c
  κ_other : ∀ c, κ c.other = (κ c).other
  sb : ∀ a c b, strictlyBetween (σ a) (σ c) (σ b) = strictlyBetween a c b
  orth : ∀ a b, orthogonal (σ a) (σ b) = orthogonal a b
  diag : ∀ a b, diagonal (σ a) (σ b) = diagonal a b
  dr_abs : ∀ a t : Sq, ((σ t).rank - (σ a).rank).natAbs = (t.rank - a.rank).natAbs
  df_abs : ∀ a t : Sq, ((σ t).file - (σ a).file).natAbs = (t.file - a.file).natAbs
  df_zero : ∀ a t : Sq, ((σ t).file - (σ a).file == 0) = (t.file - a.file == 0)
  dr_fwd : ∀ (a t : Sq) (c : Color), ((σ t).rank - (σ a).rank == fwd (κ c)) = (t.rank - a.rank == fwd c)
  dr_fwd2 : ∀ (a t : Sq) (c : Color), ((σ t).rank - (σ a).rank == 2 * fwd (κ c)) = (t.rank - a.rank == 2 * fwd c)
  pawnRk : ∀ (s : Sq) (c : Color), ((σ s).rank == pawnRank (κ c)) = (s.rank == pawnRank c)
  lastRk : ∀ (s : Sq) (c : Color), ((σ s).rank == lastRank (κ c)) = (s.rank == lastRank c)
  mk_fwd : ∀ (s : Sq) (c : Color),
    mkSq? ((σ s).rank + fwd (κ c)) (σ s).file = (mkSq? (s.rank + fwd c) s.file).map σ
  mk_back : ∀ (s : Sq) (c : Color),
    mkSq? ((σ s).rank - fwd (κ c)) (σ s).file = (mkSq? (s.rank - fwd c) s.file).map σ
  mk_mid : ∀ (a b : Sq), (b.rank - a.rank).natAbs = 2 →
    mkSq? (((σ a).rank + (σ b).rank) / 2) (σ b).file = (mkSq? ((a.rank + b.rank) / 2) b.file).map σ

/-- rank mirror with colour swap -/
def symV : Sym where
  σ := flipSq
  κ := Color.other
  σσ := flipSq_flipSq
  κκ := Color.other_other
  κ_other := fun _ => rfl
  sb := strictlyBetween_flipSq
  orth := orthogonal_flipSq
  diag := diagonal_flipSq
  dr_abs := fun a t => by rw [flipSq_rank, flipSq_rank, mirror_sub, Int.natAbs_neg]
  df_abs := fun a t => by rw [flipSq_file, flipSq_file]
  df_zero := fun a t => by rw [flipSq_file, flipSq_file]
  dr_fwd := fun a t c => by rw [flipSq_rank, flipSq_rank, mirror_sub, fwd_other, neg_beq_neg]
  dr_fwd2 := fun a t c => by rw [flipSq_rank, flipSq_rank, mirror_sub, fwd_other, Int.mul_neg, neg_beq_neg]
  pawnRk := fun s c => by rw [flipSq_rank, pawnRank_other, mirror_beq]
  lastRk := fun s c => by rw [flipSq_rank, lastRank_other, mirror_beq]
  mk_fwd := fun s c => by
    rw [flipSq_rank, flipSq_file, fwd_other, ← mkSq?_flipSq]; congr 1; omega
  mk_back := fun s c => by
    rw [flipSq_rank, flipSq_file, fwd_other, ← mkSq?_flipSq]; congr 1; omega
  mk_mid := fun a b h => by
    rw [flipSq_rank, flipSq_rank, flipSq_file, ← mkSq?_flipSq]
    congr 1
    -- parity: by `h` the two ranks differ by 2, so their sum is even and halving commutes with `14 - ·`
    omega

/-- file mirror, colours unchanged -/
def symH : Sym where
  σ := mirSq
  κ := id
  σσ := mirSq_mirSq
  κκ := fun _ => rfl
  κ_other := fun _ => rfl
  sb := strictlyBetween_mirSq
  orth := orthogonal_mirSq
  diag := diagonal_mirSq
  dr_abs := fun a t => by rw [mirSq_rank, mirSq_rank]
  df_abs := fun a t => by rw [mirSq_file, mirSq_file, mirror_sub, Int.natAbs_neg]
  df_zero := fun a t => by rw [mirSq_file, mirSq_file, mirror_sub, neg_beq_zero]
  dr_fwd := fun a t c => by rw [mirSq_rank, mirSq_rank]; rfl
  dr_fwd2 := fun a t c => by rw [mirSq_rank, mirSq_rank]; rfl
  pawnRk := fun s c => by rw [mirSq_rank]; rfl
  lastRk := fun s c => by rw [mirSq_rank]; rfl
  mk_fwd := fun s c => by rw [mirSq_rank, mirSq_file, ← mkSq?_mirSq]; rfl
  mk_back := fun s c => by rw [mirSq_rank, mirSq_file, ← mkSq?_mirSq]; rfl
  mk_mid := fun a b _ => by rw [mirSq_rank, mirSq_rank, mirSq_file, ← mkSq?_mirSq]

end Chess

namespace Chess

theorem find?_eq_some_iff_of_pairwise {α} {r : α → α → Prop} (l : List α) (p : α → Bool) (s : α) (hl : ∀ a, a ∈ l)
    (hs : l.Pairwise r) (hasym : ∀ a b, r a b → ¬ r b a) :
    l.find? p = some s ↔ (p s = true ∧ ∀ t, r t s → p t = false) := by
  rw [List.find?_eq_some_iff_append]
  constructor
  · rintro ⟨hp, as, bs, rfl, hn⟩
    refine ⟨hp, fun t hts => ?_⟩
    have hafter : ∀ t ∈ bs, r s t := (List.pairwise_cons.1 (List.pairwise_append.1 hs).2.1).1
    rcases List.mem_append.1 (hl t) with h | h
    · simpa using hn t h
    · rcases List.mem_cons.1 h with rfl | h
      · exact absurd hts (hasym _ _ hts)
      · exact absurd hts (hasym _ _ (hafter t h))
  · rintro ⟨hp, hmin⟩
    obtain ⟨as, bs, rfl⟩ := List.append_of_mem (hl s)
    have hbefore : ∀ t ∈ as, r t s := fun t ht => (List.pairwise_append.1 hs).2.2 t ht s List.mem_cons_self
    exact ⟨hp, as, bs, rfl, fun t ht => by simpa using hmin t (hbefore t ht)⟩

theorem nodup_length_eq_one_iff {α} {l : List α} (hn : l.Nodup) :
    l.length = 1 ↔ ∃ k, k ∈ l ∧ ∀ s, s ∈ l → s = k := by
  match l, hn with
  | [], _ => simp
  | [a], _ => exact ⟨fun _ => ⟨a, by simp, fun s hs => by simpa using hs⟩, fun _ => rfl⟩
  | a :: b :: r, hn =>
    simp only [List.length_cons, Nat.add_eq_right, Nat.add_eq_zero_iff, Nat.succ_ne_self, and_false, false_iff, not_exists,
      not_and]
    intro k _ h
    have ha := h a (by simp)
    have hb := h b (by simp)
    simp [ha, hb] at hn

theorem eq_singleton_of_nodup {α} {l : List α} {a : α} (hn : l.Nodup) (ha : a ∈ l) (hall : ∀ x ∈ l, x = a) : l = [a] := by
  obtain ⟨b, rfl⟩ := List.length_eq_one_iff.1 ((nodup_length_eq_one_iff hn).2 ⟨a, ha, hall⟩)
  rw [List.mem_singleton.1 ha]

theorem foldl_congr_mem {α β : Type} {F G : β → α → β} (l : List α) (h : ∀ x ∈ l, ∀ a, F a x = G a x) (a : β) :
    l.foldl F a = l.foldl G a :=
  List.foldl_rel (r := Eq) rfl fun x hx c _ e => e ▸ h x hx c

theorem nodup_flatMap_of_key {α β : Type} (l : List α) (f : α → List β) (key : β → α)
    (hl : l.Nodup) (hf : ∀ a ∈ l, (f a).Nodup) (hk : ∀ a ∈ l, ∀ x ∈ f a, key x = a) :
    (l.flatMap f).Nodup :=
  List.pairwise_flatMap.2 ⟨hf, hl.imp_of_mem fun ha hb hne x hx y hy e =>
    hne (by rw [← hk _ ha x hx, e, hk _ hb y hy])⟩

theorem all_congr_of_mem_iff {α : Type} {R R' : List α} (h : ∀ s, s ∈ R ↔ s ∈ R') (p : α → Bool) :
    R'.all p = R.all p := by
  rw [Bool.eq_iff_iff, List.all_eq_true, List.all_eq_true]
  exact ⟨fun H a ha => H a ((h a).1 ha), fun H a ha => H a ((h a).2 ha)⟩

end Chess

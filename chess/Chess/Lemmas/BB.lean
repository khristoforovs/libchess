import Chess.Model.BB
import Chess.Lemmas.List
namespace Chess

@[simp] theorem mem_and (s : Sq) (a b : BB) : mem s (a &&& b) = (mem s a && mem s b) := by simp [mem]
@[simp] theorem mem_or (s : Sq) (a b : BB) : mem s (a ||| b) = (mem s a || mem s b) := by simp [mem]
@[simp] theorem mem_xor (s : Sq) (a b : BB) : mem s (a ^^^ b) = (mem s a ^^ mem s b) := by simp [mem]
@[simp] theorem mem_not (s : Sq) (a : BB) : mem s (~~~a) = !mem s a := by simp [mem, s.isLt]
@[simp] theorem mem_zero (s : Sq) : mem s (0#64) = false := by simp [mem]
@[simp] theorem mem_bbOf (s t : Sq) : mem s (bbOf t) = decide (s = t) := by
  simp only [mem, bbOf, BitVec.getLsbD_shiftLeft, BitVec.getLsbD_one]
  have := s.isLt; have := t.isLt
  by_cases h : s = t
  · subst h; simp [*]
  · have : s.val ≠ t.val := fun e => h (Fin.ext e)
    simp only [h, decide_false]
    by_cases h2 : s.val < t.val
    · simp [h2]
    · have : s.val - t.val ≠ 0 := by omega
      simp [h2, this]

/-- the mask of an optional square (the en-passant target; a neighbour square that may be off the board) -/
def optBB (e : Option Sq) : BB := match e with | some e => bbOf e | none => 0#64

theorem mem_optBB (e : Option Sq) (dst : Sq) : mem dst (optBB e) = (e == some dst) := by
  cases e with
  | none => simp [optBB]
  | some e =>
    rw [optBB, mem_bbOf, Bool.eq_iff_iff]
    simp only [beq_iff_eq, Option.some.injEq, decide_eq_true_eq]
    exact eq_comm

theorem bb_ext {a b : BB} (h : ∀ s : Sq, mem s a = mem s b) : a = b := by
  apply BitVec.eq_of_getLsbD_eq
  intro i hi
  exact h ⟨i, hi⟩

theorem eq_zero_iff (b : BB) : b = 0#64 ↔ ∀ s : Sq, mem s b = false := by
  constructor
  · intro h s; subst h; simp
  · intro h; apply bb_ext; intro s; simp [h s]

theorem find?_mem_eq_none {l : List Sq} (hl : ∀ s, s ∈ l) (b : BB) : l.find? (mem · b) = none ↔ b = 0#64 := by
  rw [eq_zero_iff, List.find?_eq_none]
  exact ⟨fun h s => by simpa using h s (hl s), fun h s _ => by simp [h s]⟩

theorem lowest_none (b : BB) : lowest b = none ↔ b = 0#64 := find?_mem_eq_none List.mem_finRange b

theorem lowest_some (b : BB) (s : Sq) : lowest b = some s ↔ (mem s b = true ∧ ∀ t : Sq, t < s → mem t b = false) := by
  unfold lowest allSq
  exact find?_eq_some_iff_of_pairwise _ _ _ List.mem_finRange (List.pairwise_lt_finRange 64) (fun a b h => Nat.lt_asymm h)

theorem highest_none (b : BB) : highest b = none ↔ b = 0#64 :=
  find?_mem_eq_none (fun s => List.mem_reverse.2 (List.mem_finRange s)) b

theorem highest_some (b : BB) (s : Sq) : highest b = some s ↔ (mem s b = true ∧ ∀ t : Sq, s < t → mem t b = false) := by
  unfold highest allSq
  have hp : (List.finRange 64).reverse.Pairwise (fun a b : Sq => b < a) := by
    rw [List.pairwise_reverse]; exact List.pairwise_lt_finRange 64
  exact find?_eq_some_iff_of_pairwise (r := fun a b : Sq => b < a) _ _ _ (fun a => List.mem_reverse.2 (List.mem_finRange a)) hp
    (fun a b h => Nat.lt_asymm h)

theorem toListAux_eq_take : ∀ (n : Nat) (b : BB), toListAux n b = (allSq.filter (mem · b)).take n
  | 0, _ => rfl
  | n + 1, b => by
    have hnd : (allSq.filter (mem · b)).Nodup := (List.nodup_finRange 64).filter _
    rw [toListAux, lowest, ← List.head?_filter]
    cases hF : allSq.filter (mem · b) with
    | nil => rfl
    | cons s t =>
      rw [hF, List.nodup_cons] at hnd
      have hs : s ∈ allSq.filter (mem · b) := hF ▸ List.mem_cons_self
      have hx : ∀ x, mem x (b ^^^ bbOf s) = (x != s && mem x b) := fun x => by
        by_cases hx : x = s <;> simp [hx, (List.mem_filter.1 hs).2]
      -- filtering `s :: t` by `· ≠ s` drops the head and, as `s ∉ t`, keeps the tail
      have e : allSq.filter (mem · (b ^^^ bbOf s)) = t := by
        simp only [hx, ← List.filter_filter, hF, List.filter_cons, bne_self_eq_false, Bool.false_eq_true, if_false]
        exact List.filter_eq_self.2 fun x hx => bne_iff_ne.2 fun e => hnd.1 (e ▸ hx)
      simp only [List.head?_cons, List.take_succ_cons, toListAux_eq_take n, e]

theorem toList_spec (b : BB) : toList b = allSq.filter (mem · b) := by
  rw [toList, toListAux_eq_take]
  exact List.take_of_length_le (Nat.le_trans (List.length_filter_le _ _) (by simp [allSq]))

theorem mem_toList (b : BB) (s : Sq) : s ∈ toList b ↔ mem s b = true := by
  simp [toList_spec, allSq, List.mem_finRange]

theorem toList_nodup (b : BB) : (toList b).Nodup := by
  rw [toList_spec]; exact (List.nodup_finRange 64).filter _

theorem isBlank_iff (b : BB) : isBlank b = true ↔ b = 0#64 := by simp [isBlank]

theorem isBlank_and_bbOf (m : BB) (s : Sq) : isBlank (m &&& bbOf s) = !mem s m := by
  rw [Bool.eq_iff_iff, isBlank_iff, eq_zero_iff, Bool.not_eq_true']
  simp only [mem_and, mem_bbOf, Bool.and_eq_false_iff, decide_eq_false_iff_not]
  constructor
  · intro h
    exact (h s).resolve_right (fun hne => hne rfl)
  · intro h t
    by_cases e : t = s
    · exact .inl (e ▸ h)
    · exact .inr e

theorem isBlank_bbOf_and (s : Sq) (m : BB) : isBlank (bbOf s &&& m) = !mem s m := by
  rw [BitVec.and_comm, isBlank_and_bbOf]

/-- `is_blank` as a search over the squares: the Boolean form serves both polarities -/
theorem isBlank_eq_not_any (m : BB) : isBlank m = !allSq.any (mem · m) := by
  rw [Bool.eq_iff_iff, isBlank_iff, eq_zero_iff]
  simp [allSq, List.mem_finRange]

theorem popcount_eq_countP (m : BB) : popcount m = allSq.countP (mem · m) := by
  unfold popcount
  rw [toList_spec, List.countP_eq_length_filter]

theorem popcount_zero (b : BB) : popcount b = 0 ↔ b = 0#64 := by
  rw [popcount_eq_countP, List.countP_eq_zero, eq_zero_iff]
  simp [allSq, List.mem_finRange]

theorem popcount_one (b : BB) : popcount b = 1 ↔ ∃ s, mem s b = true ∧ ∀ t, mem t b = true → t = s := by
  unfold popcount
  simp only [nodup_length_eq_one_iff (toList_nodup b), mem_toList]

/-- `count_ones(m & n) == count_ones(n)` says `n ⊆ m`: a sublist of equal length is the whole list -/
theorem popcount_and_eq_iff (m n : BB) :
    popcount (m &&& n) = popcount n ↔ ∀ s, mem s n = true → mem s m = true := by
  simp only [popcount, toList_spec, mem_and, ← List.filter_filter]
  rw [List.filter_sublist.length_eq, List.filter_eq_self]
  simp [allSq, List.mem_finRange]

theorem popcount_pos_iff (m : BB) : popcount m > 0 ↔ (!isBlank m) = true := by
  rw [Bool.not_eq_true', ← Bool.not_eq_true, isBlank_iff, ← popcount_zero]
  omega

theorem decide_popcount_pos (m : BB) : decide (popcount m > 0) = !isBlank m := by
  rw [Bool.eq_iff_iff, decide_eq_true_iff]; exact popcount_pos_iff m

end Chess

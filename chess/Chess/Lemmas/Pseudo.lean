import Chess.Lemmas.Valid
import Chess.Lemmas.MoveList
import Chess.Props.C17
/-! Pseudo-legal destination masks (`get_piece_moves_mask`) equal the movement rules (part of C01), for all 2^64 occupancies.
`Spec.pseudo` is a destination rule (`pseudoDest`) and a promotion rule (`promoShape`, `Lemmas/MoveList.lean`); the mask
computes the destination rule.  For the sliders a truncated ray holds the ray squares up to and including the nearest blocker,
and the XOR accumulation of pairwise disjoint rays is their union. -/

namespace Chess.PseudoGeo
open Chess Chess.Spec Chess.C17

/-- position along ray `i` as the bit scans see it: directions 0, 2, 4, 5 run up the square index (the nearest ray square is
the lowest bit), the other four run down (the nearest is the highest bit) -/
def rayKey (i : Fin 8) (s : Sq) : Int := if i = 0 ∨ i = 2 ∨ i = 4 ∨ i = 5 then s.val else -s.val

theorem rayKey_inj (i : Fin 8) {a b : Sq} (h : rayKey i a = rayKey i b) : a = b := by
  unfold rayKey at h
  split at h <;> exact Fin.ext (by omega)

theorem between_key : ∀ (i : Fin 8) (a t : Sq), onRay i a t = true → ∀ u : Sq,
    strictlyBetween a u t = true ↔ onRay i a u = true ∧ rayKey i u < rayKey i t := by
  -- along a fixed direction a ray square is determined by its step count `n > 0`, the index moves by a fixed non-zero amount
  -- per step, and both sides say `0 < n u < n t`; per direction that is linear in ranks and files.
  -- `dr`, `df` are unfolded in a second pass: under `decide` they would leave a stale instance behind
  refine fin8 ?_ ?_ ?_ ?_ ?_ ?_ ?_ ?_ <;>
    intro a t h u <;>
    rw [strictlyBetween_iff] <;>
    simp only [rayKey, onRay, Bool.and_eq_true, beq_iff_eq, decide_eq_true_eq, Fin.reduceEq, or_false, or_true, if_true,
      if_false] at h ⊢ <;>
    simp only [dr, df, btw, Sq.rank, Sq.file] at h ⊢ <;>
    omega

/-- ray squares are aligned with the origin (so the between-table has an entry) -/
theorem onRay_aligned (i : Fin 8) (a t : Sq) (h : onRay i a t = true) : aligned a t = true := by
  rw [aligned, orthogonal_iff, diagonal_iff]
  revert h
  revert i
  refine fin8 ?_ ?_ ?_ ?_ ?_ ?_ ?_ ?_ <;>
    intro h <;>
    simp [h]

theorem onRay_unique (i : Fin 8) (a t : Sq) (hi : onRay i a t = true) (j : Fin 8) (hj : onRay j a t = true) : i = j := by
  -- each direction has its own pattern of signs of (`dr`, `df`)
  revert hi hj
  revert j
  revert i
  refine fin8 ?_ ?_ ?_ ?_ ?_ ?_ ?_ ?_ <;> refine fin8 ?_ ?_ ?_ ?_ ?_ ?_ ?_ ?_ <;>
    simp only [onRay, Bool.and_eq_true, beq_iff_eq, decide_eq_true_eq, Fin.reduceEq, implies_true] <;>
    simp only [dr, df] <;>
    omega

theorem push_mkSq (c : Color) (a m : Sq) :
    (df a m == 0 && dr a m == fwd c) = (mkSq? (a.rank + fwd c) a.file == some m) := by
  rw [Bool.eq_iff_iff]
  simp only [Bool.and_eq_true, beq_iff_eq, mkSq?_eq_some_iff, dr, df]
  omega

end Chess.PseudoGeo

namespace Chess
open Chess.Spec Chess.C17 Chess.PseudoGeo

namespace Spec

/-- `Spec.pseudo` without the promotion conjuncts: own man of type `pt` on `src`, `dst` not own, movement geometry -/
def pseudoDest (p : Pos) (pt : PT) (src dst : Sq) : Bool :=
  p.board src == some ⟨pt, p.stm⟩ &&
  (match p.board dst with | some q => q.c != p.stm | none => true) &&
  (match pt with
   | .pawn =>
      let dr := dst.rank - src.rank; let df := dst.file - src.file
      let f := fwd p.stm
      ((df == 0 && dr == f && (p.board dst).isNone) ||
       (df == 0 && dr == 2 * f && src.rank == pawnRank p.stm && (p.board dst).isNone &&
          (match mkSq? (src.rank + f) src.file with | some m => (p.board m).isNone | none => false)) ||
       (df.natAbs == 1 && dr == f && ((p.board dst).isSome || p.ep == some dst)))
   | _ => attacks p.board src dst)

end Spec

theorem lastRank_eq_promoRank (c : Color) (dst : Sq) : (dst.rank == lastRank c) = (dst.rk == Board.promoRank c) := by
  rw [Bool.eq_iff_iff]
  cases c <;> simp only [Sq.rank, Sq.rk, lastRank, Board.promoRank, beq_iff_eq] <;> omega

theorem Spec.pseudo_eq (p : Pos) (pt : PT) (src dst : Sq) (promo : Option PT) :
    pseudo p pt src dst promo = (pseudoDest p pt src dst && promoShape p.stm pt dst promo) := by
  cases pt <;> simp only [pseudo, pseudoDest, promoShape, lastRank_eq_promoRank, Bool.and_assoc] <;> rfl

theorem pseudoDest_dst_not_own {p : Pos} {pt : PT} {src dst : Sq} (h : pseudoDest p pt src dst = true) :
    isColor p.board p.stm dst = false := by
  simp only [pseudoDest, Bool.and_eq_true] at h
  have h2 := h.1.2
  unfold isColor
  cases hd : p.board dst with
  | none => rfl
  | some q => simpa [hd] using h2

theorem pseudoDest_src {p : Pos} {pt : PT} {src dst : Sq} (h : pseudoDest p pt src dst = true) :
    p.board src = some ⟨pt, p.stm⟩ := by
  simp only [pseudoDest, Bool.and_eq_true, beq_iff_eq] at h
  exact h.1.1

/-- the last step of `raySeg`, as a function of the blocker found -/
def segOf (sq : Sq) (i : Fin 8) : Option Sq → BB
  | none => ray sq i
  | some s => (between sq s).getD 0#64 ^^^ bbOf s

theorem raySeg_eq_segOf (b : Board) (sq : Sq) (i : Fin 8) :
    b.raySeg sq i = segOf sq i (if i = 0 ∨ i = 2 ∨ i = 4 ∨ i = 5 then lowest (ray sq i &&& b.combined)
                                else highest (ray sq i &&& b.combined)) := by
  simp only [Board.raySeg, segOf]; split <;> simp_all

/-- the nearest-blocker argument, given what the bit scan returned: nothing if the ray is free, otherwise an occupied ray
square with no occupied ray square nearer -/
theorem mem_segOf (occ : BB) (sq : Sq) (i : Fin 8) (blocker : Option Sq)
    (hnone : blocker = none → ray sq i &&& occ = 0#64)
    (hsome : ∀ s, blocker = some s →
      mem s (ray sq i &&& occ) = true ∧ ∀ u, rayKey i u < rayKey i s → mem u (ray sq i &&& occ) = false)
    (t : Sq) :
    mem t (segOf sq i blocker) = true ↔
      (onRay i sq t = true ∧ ∀ u, strictlyBetween sq u t = true → mem u occ = false) := by
  have hmem : ∀ u, mem u (ray sq i &&& occ) = (onRay i sq u && mem u occ) := fun u => by rw [mem_and, rays_spec]
  cases hb : blocker with
  | none =>
    have hz := (eq_zero_iff _).1 (hnone hb)
    simp only [segOf, rays_spec, iff_self_and]
    intro ht u hu
    have := hz u
    rwa [hmem, ((between_key i sq t ht u).1 hu).1, Bool.true_and] at this
  | some s =>
    -- the segment is the blocker `s` and the squares strictly between `sq` and `s`: for `t = s` everything nearer is empty by
    -- choice of `s`; any other `t` is in it iff it is nearer than `s`, since a `t` beyond `s` has `s` strictly before it
    obtain ⟨hs, hlow⟩ := hsome s hb
    rw [hmem, Bool.and_eq_true] at hs
    obtain ⟨hsR, hsO⟩ := hs
    have hemp : ∀ u, onRay i sq u = true → rayKey i u < rayKey i s → mem u occ = false := fun u hu hlt => by
      have := hlow u hlt
      rwa [hmem, hu, Bool.true_and] at this
    simp only [segOf, mem_xor, mem_between, mem_bbOf]
    by_cases hts : t = s
    · subst hts
      simp only [strictlyBetween_self, decide_true, Bool.false_xor, true_iff]
      exact ⟨hsR, fun u hu => hemp u ((between_key i sq t hsR u).1 hu).1 ((between_key i sq t hsR u).1 hu).2⟩
    · simp only [hts, decide_false, Bool.xor_false]
      constructor
      · intro hbt
        obtain ⟨htR, hlt⟩ := (between_key i sq s hsR t).1 hbt
        refine ⟨htR, fun u hu => ?_⟩
        obtain ⟨huR, hut⟩ := (between_key i sq t htR u).1 hu
        exact hemp u huR (Int.lt_trans hut hlt)
      · rintro ⟨htR, hclr⟩
        refine (between_key i sq s hsR t).2 ⟨htR, ?_⟩
        -- were the blocker nearer than `t`, it would be an occupied square strictly between
        apply Classical.byContradiction
        intro hn
        have hne := mt (rayKey_inj i) hts
        have := hclr s ((between_key i sq t htR s).2 ⟨hsR, by omega⟩)
        rw [hsO] at this
        cases this

theorem raySeg_iff (b : Board) (sq : Sq) (i : Fin 8) (t : Sq) :
    mem t (b.raySeg sq i) = true ↔
      (onRay i sq t = true ∧ ∀ u, strictlyBetween sq u t = true → mem u b.combined = false) := by
  rw [raySeg_eq_segOf]
  refine mem_segOf b.combined sq i _ ?_ ?_ t <;> split
  · exact (lowest_none _).1
  · exact (highest_none _).1
  · next hi =>
    intro s h
    refine ⟨((lowest_some _ s).1 h).1, fun u hu => ((lowest_some _ s).1 h).2 u ?_⟩
    rwa [rayKey, rayKey, if_pos hi, if_pos hi, Int.ofNat_lt] at hu
  · next hi =>
    intro s h
    refine ⟨((highest_some _ s).1 h).1, fun u hu => ((highest_some _ s).1 h).2 u ?_⟩
    rwa [rayKey, rayKey, if_neg hi, if_neg hi, Int.neg_lt_neg_iff, Int.ofNat_lt] at hu

theorem raySeg_spec {b : Board} {f : Sq → Option Piece} (h : Rep b f) (sq : Sq) (i : Fin 8) (t : Sq) :
    mem t (b.raySeg sq i) = (onRay i sq t && clearBetween f sq t) := by
  rw [Bool.eq_iff_iff, raySeg_iff, Bool.and_eq_true, clearBetween_true_iff]
  refine and_congr_right fun _ => forall_congr' fun c => imp_congr_right fun _ => ?_
  rw [h.cmb]
  cases f c <;> simp

theorem foldl_xor_disjoint (S : Fin 8 → BB) (t : Sq)
    (hdis : ∀ i j, mem t (S i) = true → mem t (S j) = true → i = j)
    (l : List (Fin 8)) (hl : l.Nodup) (acc : BB) :
    mem t (l.foldl (fun acc i => acc ^^^ S i) acc) = (mem t acc ^^ l.any (fun i => mem t (S i))) := by
  induction l generalizing acc with
  | nil => simp
  | cons x xs ih =>
    rw [List.nodup_cons] at hl
    simp only [List.foldl_cons, ih hl.2, mem_xor, List.any_cons]
    cases hx : mem t (S x) with
    | false => simp
    | true =>
      have : xs.any (fun i => mem t (S i)) = false := by
        rw [List.any_eq_false]
        intro j hj hjt
        have := hdis x j hx hjt
        subst this; exact hl.1 hj
      simp [this]

theorem truncateRays_spec (b : Board) (dirs : List (Fin 8)) (hd : dirs.Nodup) (sq t : Sq) :
    mem t (b.truncateRays dirs sq) = (dirs.any (fun i => mem t (b.raySeg sq i)) && !mem t (b.colors b.stm)) := by
  simp only [Board.truncateRays, mem_and, mem_not]
  rw [foldl_xor_disjoint (fun i => b.raySeg sq i) t
    (fun i j hi hj => onRay_unique i sq t ((raySeg_iff b sq i t).1 hi).1 j ((raySeg_iff b sq j t).1 hj).1) dirs hd]
  simp

theorem rookDirs_nodup : Board.rookDirs.Nodup := by decide
theorem bishopDirs_nodup : Board.bishopDirs.Nodup := by decide
theorem queenDirs_nodup : Board.queenDirs.Nodup := by decide

theorem truncateRays_rook (b : Board) (sq t : Sq) : mem t (b.truncateRays Board.rookDirs sq) =
    (Board.rookDirs.any (fun i => mem t (b.raySeg sq i)) && !mem t (b.colors b.stm)) :=
  truncateRays_spec b _ rookDirs_nodup sq t
theorem truncateRays_bishop (b : Board) (sq t : Sq) : mem t (b.truncateRays Board.bishopDirs sq) =
    (Board.bishopDirs.any (fun i => mem t (b.raySeg sq i)) && !mem t (b.colors b.stm)) :=
  truncateRays_spec b _ bishopDirs_nodup sq t
theorem truncateRays_queen (b : Board) (sq t : Sq) : mem t (b.truncateRays Board.queenDirs sq) =
    (Board.queenDirs.any (fun i => mem t (b.raySeg sq i)) && !mem t (b.colors b.stm)) :=
  truncateRays_spec b _ queenDirs_nodup sq t

theorem notOwn_eq {b : Board} {f : Sq → Option Piece} (h : Rep b f) (dst : Sq) :
    (match f dst with | some q => q.c != b.stm | none => true) = !mem dst (b.colors b.stm) := by
  rw [h.cls]; cases f dst <;> rfl

theorem any_raySeg {b : Board} {f : Sq → Option Piece} (h : Rep b f) (dirs : List (Fin 8)) (src dst : Sq) :
    dirs.any (fun i => mem dst (b.raySeg src i)) = (dirs.any (fun i => onRay i src dst) && clearBetween f src dst) := by
  simp only [raySeg_spec h]
  cases clearBetween f src dst <;> simp

theorem nonPawnMask_spec {b : Board} {f : Sq → Option Piece} (h : Rep b f) {pt : PT} (hpt : pt ≠ .pawn) (src dst : Sq)
    (hsrc : f src = some ⟨pt, b.stm⟩) :
    mem dst (b.pieceMovesMask pt src) = (attacks f src dst && !mem dst (b.colors b.stm)) := by
  cases pt with
  | pawn => exact absurd rfl hpt
  | knight => simp only [Board.pieceMovesMask, mem_and, mem_not, knight_spec, attacks, hsrc, C17.dr, C17.df]
  | king =>
    simp only [Board.pieceMovesMask, mem_and, mem_not, king_spec, attacks, hsrc, C17.dr, C17.df]
    rfl
  | rook =>
    simp only [Board.pieceMovesMask, truncateRays_rook, any_raySeg h, attacks, hsrc, orthogonal_iff]
    simp only [Board.rookDirs, List.any_cons, List.any_nil, Bool.or_false, Bool.or_assoc]
  | bishop =>
    simp only [Board.pieceMovesMask, truncateRays_bishop, any_raySeg h, attacks, hsrc, diagonal_iff]
    simp only [Board.bishopDirs, List.any_cons, List.any_nil, Bool.or_false, Bool.or_assoc]
  | queen =>
    simp only [Board.pieceMovesMask, truncateRays_queen, any_raySeg h, attacks, hsrc, orthogonal_iff, diagonal_iff]
    simp only [Board.queenDirs, List.any_cons, List.any_nil, Bool.or_false, Bool.or_assoc]

theorem pawnMask_eq (b : Board) (src : Sq) : b.pieceMovesMask .pawn src =
    ((pawnPush b.stm src &&& ~~~b.combined) |||
     (if isBlank (pawnPush b.stm src &&& ~~~b.combined) then 0#64 else pawnDouble b.stm src &&& ~~~b.combined) |||
     (pawnCap b.stm src &&& (b.colors b.stm.other ||| optBB b.ep))) := rfl

theorem pawnPush_eq_bbOf (c : Color) (a : Sq) :
    pawnPush c a = match mkSq? (a.rank + fwd c) a.file with | some m => bbOf m | none => 0#64 := by
  apply bb_ext
  intro s
  rw [pawn_push_spec, push_mkSq]
  exact (mem_optBB _ s).symm

/-- the square one step ahead of a pawn exists and is empty -/
def stepEmpty (f : Sq → Option Piece) (c : Color) (src : Sq) : Bool :=
  match mkSq? (src.rank + fwd c) src.file with | some m => (f m).isNone | none => false

theorem single_blank {b : Board} {f : Sq → Option Piece} (h : Rep b f) (src : Sq) :
    isBlank (pawnPush b.stm src &&& ~~~b.combined) = !stepEmpty f b.stm src := by
  rw [pawnPush_eq_bbOf, stepEmpty]
  cases mkSq? (src.rank + fwd b.stm) src.file with
  | none => simp [isBlank]
  | some m =>
    simp only [isBlank_bbOf_and, mem_not, h.cmb]
    cases f m <;> rfl

theorem pawnMask_spec {b : Board} {f : Sq → Option Piece} (h : Rep b f) (hep : ∀ e, b.ep = some e → f e = none)
    (src dst : Sq) :
    mem dst (b.pieceMovesMask .pawn src) =
      (!mem dst (b.colors b.stm) &&
        ((dst.file - src.file == 0 && dst.rank - src.rank == fwd b.stm && (f dst).isNone) ||
         (dst.file - src.file == 0 && dst.rank - src.rank == 2 * fwd b.stm && src.rank == pawnRank b.stm && (f dst).isNone &&
            stepEmpty f b.stm src) ||
         ((dst.file - src.file).natAbs == 1 && dst.rank - src.rank == fwd b.stm && ((f dst).isSome || b.ep == some dst)))) := by
  rw [pawnMask_eq, single_blank h]
  simp only [mem_or, mem_and, mem_not, apply_ite (mem dst), mem_zero, mem_optBB, pawn_push_spec, pawn_double_spec,
    pawn_capture_spec, h.cmb, h.cls, C17.dr, C17.df]
  -- what is left is propositional: on an empty `dst` both sides are the three geometric alternatives; on a man `q` only the
  -- capture is left and both sides ask that `q` is not the mover's, since the (empty) en-passant square cannot be `dst`
  cases hfd : f dst with
  | none => simp [Bool.and_comm, Bool.and_left_comm]
  | some q =>
    have hP : (b.ep == some dst) = false := by
      rw [beq_eq_false_iff_ne]
      intro he
      rw [hep dst he] at hfd
      cases hfd
    simp [Color.beq_other, bne, hP, Bool.and_comm]

/-- C01, destination part: on a board whose masks encode the placement `f` (and whose en-passant target, if any,
is an empty square), for the mover's man of type `pt` on `src`, the mask of `get_piece_moves_mask` contains exactly the
destinations allowed by the movement rules of chess (`Spec.pseudoDest`; the promotion field is `promoShape`). -/
theorem pieceMovesMask_spec {b : Board} {f : Sq → Option Piece} (h : Rep b f) (hep : ∀ e, b.ep = some e → f e = none)
    (pt : PT) (src dst : Sq) (hsrc : f src = some ⟨pt, b.stm⟩) (r : Color → Rights) (n m : Nat) :
    mem dst (b.pieceMovesMask pt src) =
      pseudoDest { board := f, stm := b.stm, rights := r, ep := b.ep, half := n, full := m } pt src dst := by
  simp only [pseudoDest, hsrc, beq_self_eq_true, Bool.true_and, notOwn_eq h]
  cases pt with
  | pawn => exact pawnMask_spec h hep src dst
  | _ =>
    rw [Bool.and_comm]
    exact nonPawnMask_spec h (by decide) src dst hsrc

theorem pieceMovesMask_absPos {b : Board} (hc : b.Cons) (hep : ∀ e, b.ep = some e → b.abs e = none)
    (pt : PT) (src dst : Sq) (hsrc : b.abs src = some ⟨pt, b.stm⟩) :
    mem dst (b.pieceMovesMask pt src) = pseudoDest b.absPos pt src dst :=
  pieceMovesMask_spec hc hep pt src dst hsrc _ _ _

/-! non-vacuity: the hypotheses of `pieceMovesMask_spec` are satisfiable (a lone white rook on a1, white to move) -/
example (K : Keys) : ∃ (b : Board) (f : Sq → Option Piece), Rep b f ∧ (∀ e, b.ep = some e → f e = none) ∧
    f 0 = some ⟨.rook, b.stm⟩ :=
  ⟨Board.new.putPiece K ⟨.rook, .white⟩ 0, _, rep_new.putPiece K ⟨.rook, .white⟩ 0,
    (by intro e he; rw [(putPiece_state K _ _ _).ep] at he; cases he),
    (by rw [(putPiece_state K _ _ _).stm]; rfl)⟩

end Chess

import Chess.Model.Text
namespace Chess

theorem splitOn_ne_nil (sep : Char) (s : Str) : splitOn sep s ≠ [] := by
  induction s with
  | nil => simp [splitOn]
  | cons c cs ih =>
    unfold splitOn
    cases h : splitOn sep cs with
    | nil => exact absurd h ih
    | cons p ps => by_cases e : c = sep <;> simp [e]

theorem splitOn_sep_cons (sep : Char) (r : Str) : splitOn sep (sep :: r) = [] :: splitOn sep r := by
  rw [splitOn]
  cases h : splitOn sep r with
  | nil => exact absurd h (splitOn_ne_nil sep r)
  | cons p ps => simp

theorem splitOn_append_sep_gen (sep : Char) (a b : Str) :
    splitOn sep (a ++ sep :: b) = splitOn sep a ++ splitOn sep b := by
  induction a with
  | nil => rw [List.nil_append, splitOn_sep_cons]; rfl
  | cons c a ih =>
    rw [List.cons_append, splitOn, ih, splitOn]
    cases h : splitOn sep a with
    | nil => exact absurd h (splitOn_ne_nil sep a)
    | cons p ps => by_cases e : c = sep <;> simp [e]

theorem splitOn_no_sep (sep : Char) (l : Str) (hl : sep ∉ l) : splitOn sep l = [l] := by
  induction l with
  | nil => simp [splitOn]
  | cons c l ih =>
    have hc : c ≠ sep := fun e => hl (by simp [e])
    have hl' : sep ∉ l := fun e => hl (by simp [e])
    rw [splitOn, ih hl']
    simp [hc]

theorem splitOn_append_sep (sep : Char) (l r : Str) (hl : sep ∉ l) :
    splitOn sep (l ++ sep :: r) = l :: splitOn sep r := by
  rw [splitOn_append_sep_gen, splitOn_no_sep sep l hl]
  rfl

theorem splitOn_flatMap_terminated {α} (sep : Char) (xs : List α) (row : α → Str) (rest : Str)
    (h : ∀ a ∈ xs, sep ∉ row a) :
    splitOn sep (xs.flatMap (fun a => row a ++ [sep]) ++ rest) = xs.map row ++ splitOn sep rest := by
  induction xs with
  | nil => simp
  | cons a xs ih =>
    have h1 : sep ∉ row a := h a (by simp)
    have h2 : ∀ b ∈ xs, sep ∉ row b := fun b hb => h b (by simp [hb])
    simp only [List.flatMap_cons, List.append_assoc, List.map_cons, List.cons_append]
    rw [splitOn_append_sep sep _ _ h1, List.nil_append, ih h2]

/-! ### joining pieces with a separator: the inverse of `splitOn` -/
def joinSep (sep : Char) : List Str → Str
  | [] => []
  | [a] => a
  | a :: b :: l => a ++ sep :: joinSep sep (b :: l)

theorem joinSep_splitOn (sep : Char) (s : Str) : joinSep sep (splitOn sep s) = s := by
  induction s with
  | nil => rfl
  | cons c cs ih =>
    rw [splitOn]
    rcases h : splitOn sep cs with _ | ⟨p, ps⟩
    · exact absurd h (splitOn_ne_nil _ _)
    · rw [h] at ih
      simp only
      by_cases hc : c = sep
      · rw [if_pos hc, joinSep, ih, hc]; rfl
      · rw [if_neg hc]
        cases ps with
        | nil => rw [joinSep] at ih ⊢; rw [ih]
        | cons q qs => rw [joinSep] at ih ⊢; rw [← ih]; rfl

theorem splitOn_joinSep (sep : Char) : ∀ (l : List Str), l ≠ [] → (∀ a ∈ l, sep ∉ a) → splitOn sep (joinSep sep l) = l
  | [a], _, h => splitOn_no_sep _ _ (h a (by simp))
  | a :: b :: l, _, h => by
    rw [joinSep, splitOn_append_sep _ _ _ (h a (by simp)),
      splitOn_joinSep sep (b :: l) (by simp) (fun x hx => h x (by simp [hx]))]

theorem natStr_eq (n : Nat) : natStr n = Nat.toDigits 10 n := by
  simp [natStr, Nat.toList_repr]

theorem natStr_isDigit (n : Nat) (c : Char) (h : c ∈ natStr n) : c.isDigit = true := by
  rw [natStr_eq] at h
  exact Nat.isDigit_of_mem_toDigits (by decide) (by decide) h

theorem natStr_ne_nil (n : Nat) : natStr n ≠ [] := by
  rw [natStr_eq]; exact Nat.toDigits_ne_nil

theorem natStr_lt_ten (n : Nat) (h : n < 10) : natStr n = [Nat.digitChar n] := by
  rw [natStr_eq, Nat.toDigits_of_lt_base h]

theorem not_mem_natStr (n : Nat) (c : Char) (hc : c.isDigit = false) : c ∉ natStr n := by
  intro h; rw [natStr_isDigit n c h] at hc; exact absurd hc (by decide)

theorem natStr_dot_not_mem (n : Nat) {w : Str} {c : Char} (hd : c.isDigit = false) (hc : c ≠ '.') (hw : c ∉ w) :
    c ∉ natStr n ++ '.' :: w := by
  simp only [List.mem_append, List.mem_cons, not_or]
  exact ⟨not_mem_natStr n c hd, hc, hw⟩

end Chess

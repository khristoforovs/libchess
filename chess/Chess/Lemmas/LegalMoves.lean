import Chess.Lemmas.Rules
namespace Chess
open Spec

theorem pseudo_promo_mem {p : Pos} {pt : PT} {src dst : Sq} {promo : Option PT}
    (h : pseudo p pt src dst promo = true) : promo ∈ promos := by
  by_cases hpt : pt = .pawn
  · subst hpt
    have := (pseudo_pawn h).2
    split at this
    · rcases this with e | e | e | e <;> simp [e, promos]
    · simp [this, promos]
  · simp [(pseudo_nonpawn hpt h).2, promos]

/-- a `for` loop (in `Id`) that in every round pushes a list onto the accumulator builds the reversed concatenation -/
theorem forIn_push {α γ : Type} (g : α → List γ) :
    ∀ (l : List α) (f : (a : α) → a ∈ l → List γ → Id (ForInStep (List γ)))
      (_ : ∀ a m b, f a m b = ForInStep.yield ((g a).reverse ++ b)) (init : List γ),
      forIn' l init f = (l.flatMap g).reverse ++ init
  | [], _, _, _ => rfl
  | a :: l, f, h, init => by
    rw [List.forIn'_cons, h]
    simp only [bind]
    rw [forIn_push g l _ (fun a m b => h a _ b)]
    simp

/-- the candidate moves of a man of type `pt` standing on `src`: every destination, every promotion field -/
def candsFrom (pt : PT) (src : Sq) : List Move :=
  allSq.flatMap fun dst => promos.map fun pr => Move.piece pt src dst pr

theorem legalMoves_eq (p : Pos) : legalMoves p =
    (Move.castle .king :: Move.castle .queen ::
      (allSq.flatMap fun src => match p.board src with
        | some q => if q.c == p.stm then candsFrom q.pt src else []
        | none => []).reverse).filter (legal p) := by
  unfold legalMoves
  simp only [Id.run, forIn, bind, pure]
  -- the two sides differ under `filter` and the two castling moves, in the loops: one `forIn_push` per level
  congr 3
  rw [forIn_push (fun src => match p.board src with
        | some q => if q.c == p.stm then candsFrom q.pt src else []
        | none => []), List.append_nil]
  intro src _ b
  cases p.board src with
  | none => rfl
  | some q =>
    dsimp only
    split
    · refine congrArg _ ?_
      rw [candsFrom, forIn_push (fun dst => promos.map fun pr => Move.piece q.pt src dst pr)]
      intro dst _ b
      refine congrArg _ ?_
      rw [forIn_push (fun pr => [Move.piece q.pt src dst pr])]
      · rw [List.map_eq_flatMap]
      · intro pr _ b; rfl
    · rfl

theorem mem_legalMoves_iff (p : Pos) (m : Move) : m ∈ legalMoves p ↔ legal p m = true := by
  rw [legalMoves_eq, List.mem_filter, and_iff_right_iff_imp]
  intro h
  cases m with
  | castle s => cases s <;> simp
  | piece pt src dst promo =>
    have hp := (legal_piece.1 h).1
    simp only [List.mem_cons, List.mem_reverse, List.mem_flatMap, reduceCtorEq, false_or]
    refine ⟨src, List.mem_finRange _, ?_⟩
    rw [pseudo_src hp]
    simp only [beq_self_eq_true, if_true, candsFrom, List.mem_flatMap, List.mem_map]
    exact ⟨dst, List.mem_finRange _, promo, pseudo_promo_mem hp, rfl⟩

theorem legalMoves_isEmpty_iff (p : Pos) : (legalMoves p).isEmpty = true ↔ ∀ m, legal p m = false := by
  simp only [List.isEmpty_iff, List.eq_nil_iff_forall_not_mem, mem_legalMoves_iff, Bool.not_eq_true]

end Chess

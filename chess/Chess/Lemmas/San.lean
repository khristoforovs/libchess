import Chess.Model.Game
/-! `sanText` of a piece move is `letter? ++ disamb ++ x? ++ [file, rank] ++ (=X)? ++ suffix?`.  Every part can be recovered
from the text without a parser, by collecting the characters of one class at a time (`pick`, `sanText_piece_inj`); castling
texts differ from each other and from every piece move text. -/
namespace Chess

theorem Sq.fl_lt (s : Sq) : s.fl < 8 := by unfold Sq.fl; omega
theorem Sq.rk_lt (s : Sq) : s.rk < 8 := by unfold Sq.rk; omega
theorem Sq.ext_rk_fl {s t : Sq} (hr : s.rk = t.rk) (hf : s.fl = t.fl) : s = t := by
  unfold Sq.rk at hr; unfold Sq.fl at hf; apply Fin.ext; omega

theorem fileChar_inj : ∀ f g : Fin 8, fileChar f.val = fileChar g.val → f = g := by decide
theorem rankChar_inj : ∀ f g : Fin 8, rankChar f.val = rankChar g.val → f = g := by decide
theorem letter_inj : ∀ t u : PT, t.letter = u.letter → t = u := by
  intro t u; cases t <;> cases u <;> decide

theorem fileChar_fl_inj {s t : Sq} (h : fileChar s.fl = fileChar t.fl) : s.fl = t.fl := by
  have := fileChar_inj ⟨s.fl, s.fl_lt⟩ ⟨t.fl, t.fl_lt⟩ h
  exact congrArg Fin.val this
theorem rankChar_rk_inj {s t : Sq} (h : rankChar s.rk = rankChar t.rk) : s.rk = t.rk := by
  have := rankChar_inj ⟨s.rk, s.rk_lt⟩ ⟨t.rk, t.rk_lt⟩ h
  exact congrArg Fin.val this

theorem printSquare_inj {s t : Sq} (h : printSquare s = printSquare t) : s = t := by
  simp only [printSquare, List.cons.injEq, and_true] at h
  exact Sq.ext_rk_fl (rankChar_rk_inj h.2) (fileChar_fl_inj h.1)

/-- piece letter (none for a pawn) -/
def sanL (pt : PT) : Str := match pt with | .pawn => [] | t => [t.letter]
/-- disambiguation characters -/
def sanD (a : Amb) (src : Sq) : Str :=
  match a with
  | .extraFile => [fileChar src.fl] | .extraRank => [rankChar src.rk]
  | .extraSquare => printSquare src | .neither => []
/-- capture mark -/
def sanX (c : Bool) : Str := if c then ['x'] else []
/-- promotion suffix -/
def sanP (promo : Option PT) : Str := match promo with | some t => ['=', t.letter] | none => []
/-- check / mate suffix from the two flags -/
def sanChk (mate check : Bool) : Str := if mate then ['#'] else if check then ['+'] else []
def sanC (p : MoveProps) : Str := sanChk p.isMate p.isCheck
def castleStr : Side → Str | .king => ['O', '-', 'O'] | .queen => ['O', '-', 'O', '-', 'O']

theorem sanText_piece (pt : PT) (src dst : Sq) (promo : Option PT) (p : MoveProps) :
    sanText (.piece pt src dst promo) p =
      sanL pt ++ sanD p.amb src ++ sanX p.isCapture ++ printSquare dst ++ sanP promo ++ sanC p := by
  cases pt <;> cases promo <;> rfl

theorem sanText_castle (s : Side) (p : MoveProps) : sanText (.castle s) p = castleStr s ++ sanC p := by
  cases s <;> rfl

/-- the role a character plays in a SAN text; that the classes are disjoint is what makes the text invertible -/
inductive ChClass | letter | file | rank | chk | cap | eq | castle | dash | other
  deriving DecidableEq

def chClass (c : Char) : ChClass :=
  if c == 'N' || c == 'B' || c == 'R' || c == 'Q' || c == 'K' || c == 'P' then .letter
  else if 'a'.toNat ≤ c.toNat && c.toNat ≤ 'h'.toNat then .file
  else if '1'.toNat ≤ c.toNat && c.toNat ≤ '8'.toNat then .rank
  else if c == '+' || c == '#' then .chk
  else if c == 'x' then .cap
  else if c == '=' then .eq
  else if c == 'O' then .castle
  else if c == '-' then .dash
  else .other

theorem chClass_fileChar (s : Sq) : chClass (fileChar s.fl) = .file :=
  (by decide : ∀ f : Fin 8, chClass (fileChar f.val) = .file) ⟨s.fl, s.fl_lt⟩
theorem chClass_rankChar (s : Sq) : chClass (rankChar s.rk) = .rank :=
  (by decide : ∀ r : Fin 8, chClass (rankChar r.val) = .rank) ⟨s.rk, s.rk_lt⟩
theorem chClass_letter (t : PT) : chClass t.letter = .letter := by
  cases t <;> decide

theorem ne_of_chClass {c d : Char} (h : chClass c ≠ chClass d) : c ≠ d :=
  fun e => h (e ▸ rfl)

theorem sanChk_cases (m c : Bool) : sanChk m c = [] ∨ sanChk m c = ['+'] ∨ sanChk m c = ['#'] := by
  cases m <;> cases c <;> simp [sanChk]

theorem sanX_inj {x y : Bool} (h : sanX x = sanX y) : x = y := by
  cases x <;> cases y <;> simp [sanX] at h ⊢
theorem sanL_inj : ∀ t u : PT, sanL t = sanL u → t = u := by
  intro t u; cases t <;> cases u <;> decide
theorem sanP_inj : ∀ t u : Option PT, sanP t = sanP u → t = u := by
  intro t u h
  cases t <;> cases u <;> simp [sanP] at h ⊢
  exact letter_inj _ _ h

/-- the characters of `t` whose class satisfies `k`, in order -/
def pick (k : ChClass → Bool) (t : Str) : Str := t.filter fun c => k (chClass c)

theorem pick_append (k : ChClass → Bool) (s t : Str) : pick k (s ++ t) = pick k s ++ pick k t :=
  List.filter_append ..

theorem pick_sanL (k : ChClass → Bool) (pt : PT) : pick k (sanL pt) = if k .letter then sanL pt else [] := by
  cases pt <;> simp [pick, sanL, List.filter_cons, chClass_letter]

theorem pick_sanX (k : ChClass → Bool) (x : Bool) : pick k (sanX x) = if k .cap then sanX x else [] := by
  cases x <;> simp [pick, sanX, List.filter_cons, (by decide : chClass 'x' = .cap)]

theorem pick_sanC (k : ChClass → Bool) (p : MoveProps) : pick k (sanC p) = if k .chk then sanC p else [] := by
  rcases sanChk_cases p.isMate p.isCheck with h | h | h <;>
    simp [sanC, h, pick, List.filter_cons, (by decide : chClass '+' = .chk), (by decide : chClass '#' = .chk)]

theorem pick_printSquare (k : ChClass → Bool) (hk : k .file = k .rank) (s : Sq) :
    pick k (printSquare s) = if k .file then printSquare s else [] := by
  cases h : k .file <;> simp [pick, printSquare, chClass_fileChar, chClass_rankChar, ← hk, h]

theorem pick_sanD (k : ChClass → Bool) (hk : k .file = k .rank) (a : Amb) (s : Sq) :
    pick k (sanD a s) = if k .file then sanD a s else [] := by
  cases a
  case extraSquare => exact pick_printSquare k hk s
  all_goals cases h : k .file <;> simp [pick, sanD, chClass_fileChar, chClass_rankChar, ← hk, h]

/-- `=` has a class of its own; the piece after it is of class `letter`, like the piece that moves -/
theorem pick_sanP (k : ChClass → Bool) (promo : Option PT) :
    pick k (sanP promo) = (if k .eq then (sanP promo).take 1 else []) ++ if k .letter then (sanP promo).drop 1 else [] := by
  cases promo <;> cases h : k .eq <;> cases h' : k .letter <;>
    simp [pick, sanP, chClass_letter, (by decide : chClass '=' = .eq), h, h']

/-- every part of the text lives in character classes of its own, but for the piece letter, which the promotion suffix
(`=`, then the letter) uses too; `k` takes file and rank characters alike -/
theorem pick_sanText_piece (k : ChClass → Bool) (hk : k .file = k .rank) (pt : PT) (src dst : Sq) (promo : Option PT)
    (p : MoveProps) : pick k (sanText (.piece pt src dst promo) p) =
      (if k .letter then sanL pt else []) ++ (if k .file then sanD p.amb src else []) ++
      (if k .cap then sanX p.isCapture else []) ++ (if k .file then printSquare dst else []) ++
      ((if k .eq then (sanP promo).take 1 else []) ++ if k .letter then (sanP promo).drop 1 else []) ++
      if k .chk then sanC p else [] := by
  rw [sanText_piece]
  simp only [pick_append, pick_sanL, pick_sanD k hk, pick_sanX, pick_printSquare k hk, pick_sanP, pick_sanC]

theorem pick_sanText_castle (k : ChClass → Bool) (s : Side) (p : MoveProps) :
    pick k (sanText (.castle s) p) = pick k (castleStr s) ++ if k .chk then sanC p else [] := by
  rw [sanText_castle, pick_append, pick_sanC]

theorem sanText_piece_inj {pt₁ pt₂ : PT} {src₁ src₂ dst₁ dst₂ : Sq} {promo₁ promo₂ : Option PT} {p₁ p₂ : MoveProps}
    (h : sanText (.piece pt₁ src₁ dst₁ promo₁) p₁ = sanText (.piece pt₂ src₂ dst₂ promo₂) p₂) :
    pt₁ = pt₂ ∧ dst₁ = dst₂ ∧ promo₁ = promo₂ ∧ sanD p₁.amb src₁ = sanD p₂.amb src₂ ∧
    p₁.isCapture = p₂.isCapture ∧ sanC p₁ = sanC p₂ := by
  -- equal texts have equal characters of every class
  have pr : ∀ k : ChClass → Bool, pick k (sanText (.piece pt₁ src₁ dst₁ promo₁) p₁) =
      pick k (sanText (.piece pt₂ src₂ dst₂ promo₂) p₂) := fun k => congrArg (pick k) h
  have hS : sanD p₁.amb src₁ ++ printSquare dst₁ = sanD p₂.amb src₂ ++ printSquare dst₂ := by
    simpa [pick_sanText_piece (fun c => c == .file || c == .rank) rfl] using pr (fun c => c == .file || c == .rank)
  have hE : (sanP promo₁).take 1 = (sanP promo₂).take 1 := by
    simpa [pick_sanText_piece (· == .eq) rfl] using pr (· == .eq)
  have hL : sanL pt₁ ++ (sanP promo₁).drop 1 = sanL pt₂ ++ (sanP promo₂).drop 1 := by
    simpa [pick_sanText_piece (· == .letter) rfl] using pr (· == .letter)
  have hX : sanX p₁.isCapture = sanX p₂.isCapture := by
    simpa [pick_sanText_piece (· == .cap) rfl] using pr (· == .cap)
  have hC : sanC p₁ = sanC p₂ := by
    simpa [pick_sanText_piece (· == .chk) rfl] using pr (· == .chk)
  -- the destination is the last two file and rank characters
  obtain ⟨hD, hSq⟩ := List.append_inj' hS rfl
  -- `=` tells whether the last letter is the promotion piece
  have hLP : pt₁ = pt₂ ∧ promo₁ = promo₂ := by
    cases promo₁ <;> cases promo₂ <;> simp [sanP] at hE hL
    · exact ⟨sanL_inj _ _ hL, rfl⟩
    · exact ⟨sanL_inj _ _ hL.1, by rw [letter_inj _ _ hL.2]⟩
  exact ⟨hLP.1, printSquare_inj hSq, hLP.2, hD, sanX_inj hX, hC⟩

theorem sanText_castle_ne_piece (s : Side) (pt : PT) (src dst : Sq) (promo : Option PT) (p q : MoveProps) :
    sanText (.castle s) p ≠ sanText (.piece pt src dst promo) q := by
  intro h
  -- no piece move text holds an `O`
  have hO : pick (· == .castle) (castleStr s) = [] := by
    simpa [pick_sanText_castle, pick_sanText_piece (· == .castle) rfl] using congrArg (pick (· == .castle)) h
  cases s <;> exact absurd hO (by decide)

theorem sanText_castle_inj {s₁ s₂ : Side} {p₁ p₂ : MoveProps} (h : sanText (.castle s₁) p₁ = sanText (.castle s₂) p₂) :
    s₁ = s₂ ∧ sanC p₁ = sanC p₂ := by
  have hO : pick (· == .castle) (castleStr s₁) = pick (· == .castle) (castleStr s₂) := by
    simpa [pick_sanText_castle] using congrArg (pick (· == .castle)) h
  have hC : pick (· == .chk) (castleStr s₁) ++ sanC p₁ = pick (· == .chk) (castleStr s₂) ++ sanC p₂ := by
    simpa [pick_sanText_castle] using congrArg (pick (· == .chk)) h
  cases s₁ <;> cases s₂ <;> first | exact ⟨rfl, hC⟩ | exact absurd hO (by decide)

/-- the characters a SAN text can contain: letters, digits and `= + # -` (for the rendering, C13, and the tokenizer, C15) -/
def isSanCh (c : Char) : Bool := c.isAlphanum || c == '=' || c == '+' || c == '#' || c == '-'

theorem fileChar_isSanCh : ∀ f : Fin 8, isSanCh (fileChar f.val) = true := by decide
theorem rankChar_isSanCh : ∀ r : Fin 8, isSanCh (rankChar r.val) = true := by decide

theorem printSquare_isSanCh (s : Sq) : ∀ c ∈ printSquare s, isSanCh c = true := by
  simp [printSquare, fileChar_isSanCh ⟨s.fl, s.fl_lt⟩, rankChar_isSanCh ⟨s.rk, s.rk_lt⟩]

theorem sanText_isSanCh (m : Move) (p : MoveProps) : ∀ c ∈ sanText m p, isSanCh c = true := by
  have hC : ∀ c ∈ sanC p, isSanCh c = true := by
    unfold sanC sanChk
    cases p.isMate <;> cases p.isCheck <;> decide
  cases m with
  | castle s =>
    rw [sanText_castle, List.forall_mem_append]
    exact ⟨by cases s <;> decide, hC⟩
  | piece pt src dst promo =>
    have hL : ∀ c ∈ sanL pt, isSanCh c = true := by cases pt <;> decide
    have hD : ∀ c ∈ sanD p.amb src, isSanCh c = true := by
      cases p.amb
      · simp [sanD, fileChar_isSanCh ⟨src.fl, src.fl_lt⟩]
      · simp [sanD, rankChar_isSanCh ⟨src.rk, src.rk_lt⟩]
      · exact printSquare_isSanCh src
      · simp [sanD]
    have hX : ∀ c ∈ sanX p.isCapture, isSanCh c = true := by cases p.isCapture <;> decide
    have hP : ∀ c ∈ sanP promo, isSanCh c = true := by
      cases promo with
      | none => decide
      | some t => cases t <;> decide
    rw [sanText_piece]
    simp only [List.forall_mem_append]
    exact ⟨⟨⟨⟨⟨hL, hD⟩, hX⟩, printSquare_isSanCh dst⟩, hP⟩, hC⟩

/-! ### the recorded properties (`MovePropertiesOnBoard::new`) -/
namespace Board
variable (K : Keys)

/-- the rival origins counted by `get_move_ambiguity_type`: origins of *legal* moves of the same piece type to the
same destination from another square -/
def rivals (b : Board) (pt : PT) (src dst : Sq) : List Sq :=
  (b.getLegalMoves K).filterMap fun m =>
    match m with
    | .piece pt' s' d' _ => if pt' == pt && d' == dst && s' != src then some s' else none
    | .castle _ => none

/-- none when unneeded, else origin file, else origin rank, else both -/
def ambKind (rivals : List Sq) (src : Sq) : Amb :=
  if !rivals.isEmpty then
    if rivals.all (fun s => s.fl != src.fl) then .extraFile
    else if rivals.all (fun s => s.rk != src.rk) then .extraRank
    else .extraSquare
  else .neither

def stdAmb (b : Board) : Move → Amb
  | .castle _ => .neither
  | .piece pt src dst _ =>
    if pt == .pawn then (if src.fl != dst.fl then .extraFile else .neither)
    else if pt == .king then .neither
    else ambKind (b.rivals K pt src dst) src

/-- what is recorded for a legal move: check and mate flags of the successor, the capture flag, the standard
disambiguation kind -/
def stdProps (b : Board) (m : Move) : MoveProps :=
  let a := b.makeMoveUnchecked K m
  ⟨decide (popcount a.checks > 0), a.term && decide (popcount a.checks > 0), b.isCapture m, b.stdAmb K m⟩

theorem stdAmb_pawn (b : Board) (src dst : Sq) (promo : Option PT) :
    b.stdAmb K (.piece .pawn src dst promo) = if src.fl ≠ dst.fl then .extraFile else .neither := by
  simp only [stdAmb, beq_self_eq_true, if_true, bne_iff_ne]

theorem stdAmb_king (b : Board) (src dst : Sq) (promo : Option PT) : b.stdAmb K (.piece .king src dst promo) = .neither :=
  rfl

theorem stdAmb_other (b : Board) {pt : PT} (hp : pt ≠ .pawn) (hk : pt ≠ .king) (src dst : Sq) (promo : Option PT) :
    b.stdAmb K (.piece pt src dst promo) = ambKind (b.rivals K pt src dst) src := by
  simp only [stdAmb, beq_false_of_ne hp, beq_false_of_ne hk, Bool.false_eq_true, if_false]

theorem moveAmbiguity_legal (b : Board) (pt : PT) (src dst : Sq) (promo : Option PT)
    (hl : b.isLegalMove K (.piece pt src dst promo) = true) :
    b.moveAmbiguity K pt src dst promo = .ok (b.stdAmb K (.piece pt src dst promo)) := by
  unfold moveAmbiguity stdAmb ambKind
  simp only [hl, Bool.not_true, Bool.false_eq_true, if_false, apply_ite (Except.ok (ε := Err))]
  rfl

/-- `MovePropertiesOnBoard::new` succeeds exactly on the moves the legality test accepts, with the standard record -/
theorem moveProps_eq (b : Board) (m : Move) :
    b.moveProps K m = if b.isLegalMove K m then .ok (b.stdProps K m) else .error .illegalMove := by
  unfold moveProps makeMove
  cases hl : b.isLegalMove K m
  · rfl
  · cases m with
    | castle s => rfl
    | piece pt src dst promo =>
      have ha := moveAmbiguity_legal K b pt src dst promo hl
      -- `moveProps` has an arm of its own for a king move, so the `match` reduces only for a known `pt`
      cases pt <;> simp only [if_true, ha] <;> rfl

theorem moveProps_legal {b : Board} {m : Move} (hl : b.isLegalMove K m = true) :
    b.moveProps K m = .ok (b.stdProps K m) := by
  rw [moveProps_eq, if_pos hl]

theorem moveProps_ok_iff {b : Board} {m : Move} {p : MoveProps} :
    b.moveProps K m = .ok p ↔ b.isLegalMove K m = true ∧ p = b.stdProps K m := by
  rw [moveProps_eq]
  cases b.isLegalMove K m <;> simp [eq_comm]

/-- the same field by field, for proofs that keep the successor board opaque -/
theorem moveProps_inv (b : Board) (m : Move) (p : MoveProps) (h : b.moveProps K m = .ok p) :
    b.isLegalMove K m = true ∧
    p.isCheck = decide (popcount (b.makeMoveUnchecked K m).checks > 0) ∧
    p.isMate = ((b.makeMoveUnchecked K m).term && decide (popcount (b.makeMoveUnchecked K m).checks > 0)) ∧
    p.isCapture = b.isCapture m ∧
    p.amb = b.stdAmb K m := by
  obtain ⟨hl, rfl⟩ := (moveProps_ok_iff K).1 h
  exact ⟨hl, rfl, rfl, rfl, rfl⟩

end Board

end Chess

import Chess.Lemmas.San
namespace Chess
open Chess.Game

/-- the table of `update_game_status` after a move or at construction: the board result as a game status, repetition when
the board gives none and the position has been counted `n ≥ 3` times -/
def modelAfter (st : Board.Status) (n : Nat) : GStatus :=
  match st with
  | .checkmated c => .checkMated c
  | .theoreticalDraw => .theoreticalDraw
  | .stalemate => .stalemate
  | .fiftyMoves => .fiftyMoves
  | .ongoing => if n ≥ 3 then .repetition else .ongoing

namespace C12

def finished : GStatus → Bool | .ongoing => false | .drawOffered _ => false | _ => true

def afterMoveStatus (g : Game) : GStatus := modelAfter g.position.getStatus (g.positionCounter g.position)

def TagOK (g : Game) : Prop := g.result = resultTagOf g.status

end C12

namespace Game
variable (K : Keys)

theorem setStatus_eq (g : Game) (s : GStatus) :
    g.setStatus s = { g with status := s, result := if s ≠ g.status then resultTagOf s else g.result } := by
  unfold setStatus
  split <;> simp_all

@[simp] theorem setStatus_status (g : Game) (s : GStatus) : (g.setStatus s).status = s := by
  rw [setStatus_eq]

@[simp] theorem updateStatus_position (g : Game) (l : Option Action) : (g.updateStatus l).position = g.position := by
  unfold updateStatus
  rw [setStatus_eq]
@[simp] theorem updateStatus_history (g : Game) (l : Option Action) : (g.updateStatus l).history = g.history := by
  unfold updateStatus
  rw [setStatus_eq]
@[simp] theorem updateStatus_counter (g : Game) (l : Option Action) : (g.updateStatus l).counter = g.counter := by
  unfold updateStatus
  rw [setStatus_eq]

@[simp] theorem updateStatus_status (g : Game) (l : Option Action) : (g.updateStatus l).status =
    match l with
    | none | some (.move _) => C12.afterMoveStatus g
    | some (.offerDraw c) => .drawOffered c
    | some .declineDraw => .ongoing
    | some .acceptDraw => .drawAccepted
    | some (.resign c) => .resigned c := by
  unfold updateStatus
  rw [setStatus_status]
  rfl

theorem updateStatus_tag (g : Game) (l : Option Action) (h : C12.TagOK g) :
    C12.TagOK (g.updateStatus l) := by
  unfold updateStatus
  rw [setStatus_eq]
  unfold C12.TagOK at *
  split <;> simp_all

@[simp] theorem afterMoveStatus_updateStatus (g : Game) (l : Option Action) :
    C12.afterMoveStatus (g.updateStatus l) = C12.afterMoveStatus g := by
  simp [C12.afterMoveStatus, positionCounter, counterGet]

@[simp] theorem counterIncrement_position (g : Game) : g.counterIncrement.position = g.position := rfl
@[simp] theorem counterIncrement_history (g : Game) : g.counterIncrement.history = g.history := rfl
@[simp] theorem counterIncrement_status (g : Game) : g.counterIncrement.status = g.status := rfl

/-- `cget`, `cins`, `ckeys`: lookup, insertion and keys of the counter as a bare association list; `Game.counterGet` and
`Game.counterIncrement` are these on `g.counter` (`counterGet_eq`, `counterIncrement_counter`) -/
def cget (l : List (BB × Nat)) (h : BB) : Nat := match l.find? (·.1 == h) with | some e => e.2 | none => 0
/-- `BTreeMap::insert` of `(k, n)` -/
def cins (l : List (BB × Nat)) (k : BB) (n : Nat) : List (BB × Nat) :=
  if l.any (·.1 == k) then l.map (fun e => if e.1 == k then (k, n) else e) else l ++ [(k, n)]

theorem counterGet_eq (g : Game) (h : BB) : g.counterGet h = cget g.counter h := rfl
theorem counterIncrement_counter (g : Game) :
    g.counterIncrement.counter = cins g.counter g.position.hash (cget g.counter g.position.hash + 1) := rfl

@[simp] theorem cget_nil (h : BB) : cget [] h = 0 := rfl
theorem cget_cons (e : BB × Nat) (l : List (BB × Nat)) (h : BB) :
    cget (e :: l) h = if e.1 == h then e.2 else cget l h := by
  unfold cget
  rw [List.find?_cons]
  by_cases he : e.1 == h <;> simp [he]

theorem cget_map (l : List (BB × Nat)) (k : BB) (n : Nat) (h : BB) :
    cget (l.map (fun e => if e.1 == k then (k, n) else e)) h =
      if k == h then (if l.any (·.1 == k) then n else 0) else cget l h := by
  induction l with
  | nil => simp
  | cons e l ih =>
    rw [List.map_cons, cget_cons, ih, cget_cons, List.any_cons]
    by_cases hek : e.1 = k
    · subst hek
      by_cases hkh : e.1 = h
      · simp [hkh]
      · simp [hkh]
    · have hek' : (e.1 == k) = false := by simpa using hek
      by_cases hkh : k = h
      · subst hkh; simp only [hek', Bool.false_or]; simp [hek]
      · simp only [hek', Bool.false_or]; simp [hkh]

theorem cget_append_of_not_any (l : List (BB × Nat)) (k : BB) (n : Nat) (h : BB) (hn : l.any (·.1 == k) = false) :
    cget (l ++ [(k, n)]) h = if k == h then n else cget l h := by
  induction l with
  | nil => simp [cget_cons]
  | cons e l ih =>
    rw [List.any_cons, Bool.or_eq_false_iff] at hn
    rw [List.cons_append, cget_cons, ih hn.2, cget_cons]
    by_cases hkh : k == h
    · have hkh' : k = h := by simpa using hkh
      have : (e.1 == h) = false := by rw [← hkh']; exact hn.1
      simp [hkh, this]
    · simp [hkh]

theorem cget_of_not_any (l : List (BB × Nat)) (k : BB) (hn : l.any (·.1 == k) = false) : cget l k = 0 := by
  induction l with
  | nil => rfl
  | cons e l ih =>
    rw [List.any_cons, Bool.or_eq_false_iff] at hn
    rw [cget_cons, ih hn.2]; simp [hn.1]

theorem cget_cins (l : List (BB × Nat)) (k : BB) (n : Nat) (h : BB) :
    cget (cins l k n) h = if k == h then n else cget l h := by
  unfold cins
  by_cases ha : l.any (·.1 == k) = true
  · rw [if_pos ha, cget_map, ha]; simp
  · have ha' : l.any (·.1 == k) = false := Bool.eq_false_iff.2 ha
    rw [if_neg ha, cget_append_of_not_any _ _ _ _ ha']

def ckeys (l : List (BB × Nat)) : List BB := l.map (·.1)

theorem ckeys_cins (l : List (BB × Nat)) (k : BB) (n : Nat) :
    ckeys (cins l k n) = if l.any (·.1 == k) then ckeys l else ckeys l ++ [k] := by
  unfold cins ckeys
  by_cases ha : l.any (·.1 == k) = true
  · rw [if_pos ha, if_pos ha, List.map_map]
    apply List.map_congr_left
    intro e _
    by_cases he : e.1 == k
    · have : e.1 = k := by simpa using he
      simp [this]
    · have : e.1 ≠ k := by simpa using he
      simp [this]
  · rw [if_neg ha, if_neg ha]; simp

theorem any_key_iff (l : List (BB × Nat)) (k : BB) : l.any (·.1 == k) = true ↔ k ∈ ckeys l := by
  unfold ckeys
  simp only [List.any_eq_true, List.mem_map, beq_iff_eq]

theorem ckeys_cins_nodup (l : List (BB × Nat)) (k : BB) (n : Nat) (h : (ckeys l).Nodup) : (ckeys (cins l k n)).Nodup := by
  rw [ckeys_cins]
  by_cases ha : l.any (·.1 == k) = true
  · rw [if_pos ha]; exact h
  · rw [if_neg ha]
    have : k ∉ ckeys l := fun hk => ha ((any_key_iff l k).2 hk)
    rw [List.nodup_append]
    refine ⟨h, by simp, ?_⟩
    intro a ha' b hb
    simp only [List.mem_singleton] at hb
    subst hb
    intro hab; subst hab; exact this ha'

theorem mem_ckeys_cins (l : List (BB × Nat)) (k : BB) (n : Nat) (h : BB) :
    h ∈ ckeys (cins l k n) ↔ h ∈ ckeys l ∨ h = k := by
  rw [ckeys_cins]
  split
  · next ha => exact ⟨.inl, fun e => e.elim id (fun e => e ▸ (any_key_iff l k).1 ha)⟩
  · simp

/-- `Game::from_board`: the status is the board result (the counter is still empty when it is computed, so never
repetition), the start position has been counted once -/
theorem ofBoard_eq (b : Board) : ofBoard b =
    let s : GStatus := modelAfter b.getStatus 0
    { position := b, history := History.fromPosition b, counter := [(b.hash, 1)], status := s, result := resultTagOf s } := by
  simp only [ofBoard, updateStatus, setStatus_eq, counterIncrement, positionCounter, counterGet]
  cases b.getStatus <;> simp [modelAfter] <;> rfl

@[simp] theorem ofBoard_position (b : Board) : (ofBoard b).position = b := by rw [ofBoard_eq]
@[simp] theorem ofBoard_history (b : Board) : (ofBoard b).history = History.fromPosition b := by rw [ofBoard_eq]
theorem ofBoard_counter (b : Board) : (ofBoard b).counter = [(b.hash, 1)] := by rw [ofBoard_eq]
theorem ofBoard_tag (b : Board) : C12.TagOK (ofBoard b) := by
  rw [ofBoard_eq]
  rfl

/-- the game after the move `m`, accepted in `g` -/
def moved (g : Game) (m : Move) : Game :=
  let nb := g.position.makeMoveUnchecked K m
  let g1 := ({ g with position := nb } : Game).counterIncrement
  ({ g1 with history := ⟨g.history.positions ++ [nb], g.history.moves ++ [m], g.history.props ++ [g.position.stdProps K m]⟩ }
    : Game).updateStatus (some (.move m))

@[simp] theorem moved_position (g : Game) (m : Move) : (g.moved K m).position = g.position.makeMoveUnchecked K m := by
  simp [moved]

@[simp] theorem moved_history (g : Game) (m : Move) : (g.moved K m).history =
    ⟨g.history.positions ++ [g.position.makeMoveUnchecked K m], g.history.moves ++ [m],
     g.history.props ++ [g.position.stdProps K m]⟩ := by
  simp [moved]

@[simp] theorem moved_counter (g : Game) (m : Move) : (g.moved K m).counter =
    cins g.counter (g.position.makeMoveUnchecked K m).hash (cget g.counter (g.position.makeMoveUnchecked K m).hash + 1) := by
  simp [moved, counterIncrement_counter]

theorem moved_status (g : Game) (m : Move) : (g.moved K m).status = C12.afterMoveStatus (g.moved K m) := by
  simp [moved]

theorem moved_tag (g : Game) (m : Move) (h : C12.TagOK g) : C12.TagOK (g.moved K m) :=
  updateStatus_tag _ _ h

/-- a move is accepted exactly when the game is ongoing and the move legal: the branch of `act` that stands for the
`unwrap` in `GameHistory::push` is dead -/
theorem act_move (g : Game) (m : Move) : g.act K (.move m) =
    if g.status = .ongoing then
      if g.position.isLegalMove K m then .ok (g.moved K m) else .error .illegalAction
    else .error (if C12.finished g.status then .gameFinished else .illegalAction) := by
  unfold act
  split
  · next hs =>                      -- ongoing
    rw [if_pos hs]
    simp only [Board.makeMove, Board.moveProps_eq]
    cases g.position.isLegalMove K m <;> rfl
  · next hs => simp [hs, C12.finished]   -- a draw offer is pending
  · next h1 h2 =>                   -- every other status is final
    cases hs : g.status <;> simp_all [C12.finished]

theorem act_move_ok {g g' : Game} {m : Move} (h : g.act K (.move m) = .ok g') :
    g.status = .ongoing ∧ g.position.isLegalMove K m = true ∧ g' = g.moved K m := by
  rw [act_move] at h
  split at h
  · next hs =>
    split at h
    · next hl => exact ⟨hs, hl, (Except.ok.inj h).symm⟩
    · cases h
  · cases h

/-- which non-move actions the protocol accepts in which status -/
def accepts : GStatus → Action → Bool
  | .ongoing, .offerDraw _ | .ongoing, .resign _ => true
  | .drawOffered _, .acceptDraw | .drawOffered _, .declineDraw | .drawOffered _, .resign _ => true
  | _, _ => false

theorem act_nonmove (g : Game) (a : Action) (hne : ∀ m, a ≠ .move m) :
    g.act K a = if accepts g.status a then .ok (g.updateStatus (some a))
      else .error (if C12.finished g.status then .gameFinished else .illegalAction) := by
  unfold act
  cases a with
  | move m => exact absurd rfl (hne m)
  | _ => cases g.status <;> rfl

theorem act_accepted {g : Game} {a : Action} (h : accepts g.status a = true) :
    g.act K a = .ok (g.updateStatus (some a)) := by
  have hne : ∀ m, a ≠ .move m := by
    rintro m rfl
    cases hs : g.status <;> rw [hs] at h <;> cases h
  rw [act_nonmove K g a hne, if_pos h]

theorem act_nonmove_ok {g g' : Game} {a : Action} (hne : ∀ m, a ≠ .move m) (h : g.act K a = .ok g') :
    accepts g.status a = true ∧ g' = g.updateStatus (some a) := by
  rw [act_nonmove K g a hne] at h
  split at h
  · next ha => exact ⟨ha, (Except.ok.inj h).symm⟩
  · cases h

theorem act_nonmove_frame {g g' : Game} {a : Action} (hne : ∀ m, a ≠ .move m) (h : g.act K a = .ok g') :
    g'.position = g.position ∧ g'.history = g.history ∧ g'.counter = g.counter := by
  obtain ⟨-, rfl⟩ := act_nonmove_ok K hne h
  simp

theorem act_ok {g g' : Game} {a : Action} (h : g.act K a = .ok g') :
    (∃ m, a = .move m ∧ g.status = .ongoing ∧ g.position.isLegalMove K m = true ∧ g' = g.moved K m) ∨
    ((∀ m, a ≠ .move m) ∧ g' = g.updateStatus (some a)) := by
  cases a with
  | move m => exact .inl ⟨m, rfl, act_move_ok K h⟩
  | _ => exact .inr ⟨by simp, (act_nonmove_ok K (by simp) h).2⟩

theorem act_tag {g g' : Game} {a : Action} (h : g.act K a = .ok g') (t : C12.TagOK g) : C12.TagOK g' := by
  rcases act_ok K h with ⟨m, -, -, -, rfl⟩ | ⟨-, rfl⟩
  · exact moved_tag K g m t
  · exact updateStatus_tag g _ t

end Game

section
variable (K : Keys)

/-- the shape of a history whose last position is `cur`; `step`: each position is its predecessor after the recorded move,
which was legal there, and the recorded properties are what `MovePropertiesOnBoard::new` computes for it there -/
structure History.Chain (h : History) (cur : Board) : Prop where
  len_pos : h.positions.length = h.moves.length + 1
  len_props : h.props.length = h.moves.length
  last : h.positions.getLast? = some cur
  step : ∀ (i : Nat) (hi : i < h.moves.length),
    h.positions[i + 1]'(by omega) = (h.positions[i]'(by omega)).makeMoveUnchecked K h.moves[i] ∧
    (h.positions[i]'(by omega)).isLegalMove K h.moves[i] = true ∧
    (h.positions[i]'(by omega)).moveProps K h.moves[i] = .ok (h.props[i]'(by omega))

theorem History.Chain.init (b : Board) : History.Chain K (History.fromPosition b) b where
  len_pos := rfl
  len_props := rfl
  last := rfl
  step := fun i hi => by simp [History.fromPosition] at hi

theorem History.Chain.getElem?_last {h : History} {cur : Board} (hc : History.Chain K h cur) :
    h.positions[h.moves.length]? = some cur := by
  have := hc.last
  rwa [List.getLast?_eq_getElem?, hc.len_pos, Nat.add_sub_cancel] at this

theorem History.Chain.move {h : History} {cur : Board} {m : Move}
    (hc : History.Chain K h cur) (hl : cur.isLegalMove K m = true) :
    History.Chain K ⟨h.positions ++ [cur.makeMoveUnchecked K m], h.moves ++ [m], h.props ++ [cur.stdProps K m]⟩
      (cur.makeMoveUnchecked K m) := by
  have hlen := hc.len_pos
  have hlen' := hc.len_props
  have hlast : h.positions[h.moves.length]'(by omega) = cur :=
    (List.getElem?_eq_some_iff.1 hc.getElem?_last).2
  refine ⟨by simp [hlen], by simp [hlen'], by simp, fun i hi => ?_⟩
  simp only [List.length_append, List.length_singleton] at hi
  by_cases hlt : i < h.moves.length
  · simpa (disch := omega) only [List.getElem_append_left] using hc.step i hlt
  · obtain rfl : i = h.moves.length := by omega
    simp (disch := omega) only [List.getElem_append_left, List.getElem_append_right, hlast, hlen, hlen', Nat.sub_self,
      List.getElem_cons_zero]
    exact ⟨trivial, hl, Board.moveProps_legal K hl⟩

end

namespace Game
variable (K : Keys)

/-- What `Game::from_board` establishes and every accepted action keeps: the history is a chain ending in the current
position (C13), the result tag is that of the status (C12), the counter has one entry per hash of a history position,
holding the number of history positions with that hash (C11). -/
structure Inv (g : Game) : Prop where
  chain : History.Chain K g.history g.position
  tag : C12.TagOK g
  nodup : (ckeys g.counter).Nodup
  count : ∀ h, cget g.counter h = (g.history.positions.filter (·.hash == h)).length
  keys : ∀ h, h ∈ ckeys g.counter ↔ ∃ q ∈ g.history.positions, q.hash = h

theorem Inv.ofBoard (b : Board) : (ofBoard b).Inv K where
  chain := by simpa using History.Chain.init K b
  tag := ofBoard_tag b
  nodup := by simp [ofBoard_counter, ckeys]
  count := fun h => by
    simp only [ofBoard_counter, ofBoard_history, History.fromPosition, cget_cons, cget_nil, List.filter_cons, List.filter_nil]
    split <;> rfl
  keys := fun h => by simp [ofBoard_counter, ckeys, History.fromPosition, eq_comm]

theorem Inv.updateStatus {g : Game} (h : g.Inv K) (l : Option Action) : (g.updateStatus l).Inv K where
  chain := by simpa using h.chain
  tag := updateStatus_tag g l h.tag
  nodup := by simpa using h.nodup
  count := by simpa using h.count
  keys := by simpa using h.keys

theorem Inv.moved {g : Game} (h : g.Inv K) (m : Move) (hl : g.position.isLegalMove K m = true) : (g.moved K m).Inv K where
  chain := by simpa using h.chain.move K hl
  tag := moved_tag K g m h.tag
  nodup := by simpa using ckeys_cins_nodup _ _ _ h.nodup
  count := fun x => by
    -- the entry of the new position's hash goes up by one, and so does the tally of that hash; nothing else changes
    rw [moved_counter, cget_cins, moved_history, List.filter_append, List.length_append, ← h.count x]
    simp only [List.filter_cons, List.filter_nil]
    split <;> simp_all
  keys := fun x => by
    rw [moved_counter, mem_ckeys_cins, h.keys, moved_history]
    simp [or_and_right, exists_or, eq_comm]

theorem Inv.act {g g' : Game} {a : Action} (h : g.Inv K) (ha : g.act K a = .ok g') : g'.Inv K := by
  rcases act_ok K ha with ⟨m, -, -, hl, rfl⟩ | ⟨-, rfl⟩
  · exact h.moved K m hl
  · exact h.updateStatus K _

end Game

/-- the games a caller can hold: `Game::from_board` followed by accepted actions (`Game::get_position_mut`, which hands out the
position for mutation behind the history's back, is left out) -/
inductive GameReach (K : Keys) : Game → Prop
  | init (b : Board) : GameReach K (Game.ofBoard b)
  | step {g g' : Game} (a : Action) : GameReach K g → g.act K a = .ok g' → GameReach K g'

theorem GameReach.inv {K : Keys} {g : Game} (h : GameReach K g) : g.Inv K := by
  induction h with
  | init b => exact .ofBoard K b
  | step a _ ha ih => exact ih.act K ha

theorem GameReach.positions_cons {K : Keys} {g : Game} (hr : GameReach K g) : ∃ b l, g.history.positions = b :: l := by
  have h := hr.inv.chain.len_pos
  cases hp : g.history.positions with
  | nil => simp [hp] at h
  | cons b l => exact ⟨b, l, rfl⟩

theorem GameReach.position_mem {K : Keys} {g : Game} (hr : GameReach K g) : g.position ∈ g.history.positions :=
  List.mem_of_getLast? hr.inv.chain.last

section
variable (K : Keys)

/-- the games obtainable from `g0` by accepted actions (any interleaving of moves, offers, refusals, …) -/
inductive PlayedFrom (g0 : Game) : Game → Prop
  | init : PlayedFrom g0 g0
  | step {g g' : Game} (a : Action) : PlayedFrom g0 g → g.act K a = .ok g' → PlayedFrom g0 g'

theorem PlayedFrom.reach {b : Board} {g : Game} (h : PlayedFrom K (ofBoard b) g) : GameReach K g := by
  induction h with
  | init => exact .init b
  | step a _ ha ih => exact .step a ih ha

theorem GameReach.playedFrom {g : Game} (h : GameReach K g) : ∃ b, PlayedFrom K (ofBoard b) g := by
  induction h with
  | init b => exact ⟨b, .init⟩
  | step a _ ha ih => obtain ⟨b, hb⟩ := ih; exact ⟨b, .step a hb ha⟩

end

theorem PlayedFrom.head {K : Keys} {b : Board} {g : Game} (h : PlayedFrom K (ofBoard b) g) :
    g.history.positions.head? = some b := by
  induction h with
  | init => rw [ofBoard_history]; rfl
  | step a _ ha ih =>
    rcases act_ok K ha with ⟨m, -, -, -, rfl⟩ | ⟨-, rfl⟩
    · rw [moved_history, List.head?_append, ih]
      rfl
    · simpa using ih

end Chess

import Chess.Lemmas.Rules
/-! `ValidPos` is preserved by every legal move: a legal move lifts own men, lands own men and removes at most one enemy man,
never a king, and every clause of `ValidPos` speaks of a particular man on a particular square. -/
namespace Chess
open Spec

theorem inCheck_of_attack {bd : Sq → Option Piece} {c : Color} {k a : Sq} {q : Piece}
    (hk : kingSq? bd c = some k) (ha : bd a = some q) (hc : q.c = c.other) (hat : attacks bd a k = true) :
    inCheck bd c = true := by
  unfold inCheck
  rw [hk]
  simp only [attackedBy, List.any_eq_true, Bool.and_eq_true]
  exact ⟨a, mem_allSq a, by rw [ha]; simpa using hc, hat⟩

theorem no_king_capture {p : Pos} (hv : ValidPos p = true) {pt : PT} {src dst : Sq} {promo : Option PT}
    (h : pseudo p pt src dst promo = true) : p.board dst ≠ some ⟨.king, p.stm.other⟩ := by
  intro hd
  obtain ⟨k, hk, _, hu⟩ := validPos_theKing hv p.stm.other
  cases hu dst hd
  have := inCheck_of_attack hk (pseudo_src h) (by simp) (pseudo_attacks h (by rw [hd]; simp))
  rw [((validPos_iff p).mp hv).2.1] at this
  cases this

def Move.dst? : Move → Option Sq
  | .piece _ _ dst _ => some dst
  | .castle _ => none

section frame
variable {p : Pos} {m : Move} {x : Sq} {q : Piece}

/-- an enemy man stays where it is, unless it stands on the destination square or is a pawn (taken in passing);
the enemy king stays in any case -/
theorem enemy_keep (hv : ValidPos p = true) (hm : legal p m = true) (hx : p.board x = some q) (hc : q.c ≠ p.stm)
    (hq : q.pt = .king ∨ (q.pt ≠ .pawn ∧ m.dst? ≠ some x)) : applyBoard p m x = some q := by
  have he := validPos_epOk hv
  cases m with
  | piece pt src dst promo =>
    obtain ⟨hp, -⟩ := legal_piece.1 hm
    have hd : x ≠ dst := by
      rintro rfl
      rcases hq with hq | hq
      · obtain ⟨t, c⟩ := q
        cases hq
        rcases Color.eq_or_eq_other p.stm c with rfl | rfl
        · exact hc rfl
        · exact no_king_capture hv hp hx
      · exact hq.2 rfl
    have hvic : victim? p pt dst ≠ some x := fun e => by
      have := victim?_pawn he e
      rw [hx] at this; cases this
      rcases hq with hq | hq
      · cases hq
      · exact hq.1 rfl
    have hs : x ≠ src := by
      rintro rfl
      rw [pseudo_src hp] at hx; cases hx; exact hc rfl
    rw [applyBoard_piece, if_neg hvic, if_neg hd, if_neg hs, hx]
  | castle s =>
    obtain ⟨_, h4, hrf, hkt, hrt, _⟩ := castleOk_placement hm
    -- `x` holds an enemy man, while each of the four squares castling touches is empty or holds an own man
    have ne : ∀ y, (p.board y = none ∨ ∃ r, p.board y = some ⟨r, p.stm⟩) → x ≠ y := by
      rintro y hy rfl
      rcases hy with hy | ⟨r, hy⟩ <;> rw [hy] at hx <;> cases hx
      exact hc rfl
    rw [applyBoard_castle, castled_apply, if_neg (ne _ (Or.inl hrt)), if_neg (ne _ (Or.inl hkt)),
      if_neg (ne _ (Or.inr ⟨_, hrf⟩)), if_neg (ne _ (Or.inr ⟨_, h4⟩)), hx]

theorem enemy_of_after (hx : applyBoard p m x = some q) (hc : q.c ≠ p.stm) : p.board x = some q := by
  cases m with
  | piece pt src dst promo =>
    rcases applyBoard_piece_eq_some.1 hx with ⟨_, rfl⟩ | ⟨_, _, _, h⟩
    · exact absurd rfl hc
    · exact h
  | castle s =>
    rw [applyBoard_castle] at hx
    rcases castled_eq_some.1 hx with ⟨_, rfl⟩ | ⟨_, _, rfl⟩ | ⟨_, _, _, _, h⟩
    · exact absurd rfl hc
    · exact absurd rfl hc
    · exact h

theorem own_keep {pt : PT} {src dst : Sq} {promo : Option PT} (he : epOk p = true)
    (h : pseudo p pt src dst promo = true) (hx : p.board x = some q) (hc : q.c = p.stm) (hs : x = src → q.pt ≠ pt) :
    applyBoard p (.piece pt src dst promo) x = some q := by
  have hs : x ≠ src := by
    rintro rfl
    rw [pseudo_src h] at hx; cases hx; exact hs rfl rfl
  have hd : x ≠ dst := by rintro rfl; exact pseudo_dst h q hx hc
  have hvic : victim? p pt dst ≠ some x := fun e => by
    have := victim?_pawn he e
    rw [hx] at this; cases this
    exact Color.other_ne _ hc
  rw [applyBoard_piece, if_neg hvic, if_neg hd, if_neg hs, hx]

end frame

theorem own_king_piece {p : Pos} (hv : ValidPos p = true) {pt : PT} {src dst : Sq} {promo : Option PT}
    (h : pseudo p pt src dst promo = true) {k : Sq} (hk : p.board k = some ⟨.king, p.stm⟩)
    (hu : ∀ s, p.board s = some ⟨.king, p.stm⟩ → s = k) (s : Sq) :
    applyBoard p (.piece pt src dst promo) s = some ⟨.king, p.stm⟩ ↔ s = if pt = .king then dst else k :=
  own_king_after hk hu (pseudo_src h) (fun e => pseudo_dst h _ (e ▸ hk) rfl) (pseudo_getD_king h)
    (fun e => by have := victim?_pawn (validPos_epOk hv) e; rw [hk] at this; cases this) s

theorem validPos_apply_kings {p : Pos} (hv : ValidPos p = true) {m : Move} (hm : legal p m = true) (col : Color) :
    countPiece (apply p m).board ⟨.king, col⟩ = 1 := by
  show countPiece (applyBoard p m) ⟨.king, col⟩ = 1
  have h1 := ((validPos_iff p).mp hv).1
  rcases Color.eq_or_eq_other p.stm col with rfl | rfl
  · obtain ⟨k, hk, hu⟩ := (countPiece_eq_one_iff _ _).mp (h1 p.stm)
    have only : ∀ {k' : Sq}, (∀ s, applyBoard p m s = some ⟨.king, p.stm⟩ ↔ s = k') →
        countPiece (applyBoard p m) ⟨.king, p.stm⟩ = 1 :=
      fun h => (countPiece_eq_one_iff _ _).2 ⟨_, (h _).2 rfl, fun s => (h s).1⟩
    cases m with
    | piece pt src dst promo => exact only (own_king_piece hv (legal_piece.1 hm).1 hk hu)
    | castle s => exact only (own_king_castle s (castleOk_placement hm).2.1 hu)
  · rw [← h1 p.stm.other]
    exact countPiece_congr fun s =>
      ⟨fun h => enemy_of_after h (Color.other_ne _), fun h => enemy_keep hv hm h (Color.other_ne _) (Or.inl rfl)⟩

theorem validPos_apply_notInCheck {p : Pos} {m : Move} (hm : legal p m = true) :
    inCheck (apply p m).board (apply p m).stm.other = false := by
  show inCheck (applyBoard p m) p.stm.other.other = false
  rw [Color.other_other]
  cases m with
  | piece pt src dst promo => exact (legal_piece.1 hm).2
  | castle s => exact (castleOk_placement hm).2.2.2.2.2

theorem ownRights_has {r : Rights} {c : Color} {pt : PT} {src dst : Sq} {promo : Option PT} {s : Side}
    (h : (ownRights r c (.piece pt src dst promo)).has s = true) :
    r.has s = true ∧ pt ≠ .king ∧ (pt = .rook → src ≠ hsqS c (rookFrom s)) := by
  revert h
  cases s <;> cases pt <;> simp [ownRights, dropRights, Rights.has, rookFrom]

theorem oppRights_has {r : Rights} {o : Color} {m : Move} {s : Side} (h : (oppRights r o m).has s = true) :
    r.has s = true ∧ m.dst? ≠ some (hsqS o (rookFrom s)) := by
  revert h
  rcases m with ⟨pt, src, dst, promo⟩ | t <;> cases s <;> simp [oppRights, dropRights, Move.dst?, Rights.has, rookFrom]

theorem validPos_apply_rights {p : Pos} (hv : ValidPos p = true) {m : Move} (hm : legal p m = true) (col : Color) :
    rightsOk (apply p m) col = true := by
  have hr := validPos_rightsOk hv
  have he := validPos_epOk hv
  rw [rightsOk_iff_has, apply_eq]
  dsimp only
  intro s hs
  rcases Color.eq_or_eq_other p.stm col with rfl | rfl
  · rw [if_pos rfl] at hs
    cases m with
    | castle t => cases s <;> cases hs
    | piece pt src dst promo =>
      obtain ⟨hp, -⟩ := legal_piece.1 hm
      obtain ⟨h0, hk, hrk⟩ := ownRights_has hs
      obtain ⟨b4, br⟩ := (rightsOk_iff_has _ _).mp (hr p.stm) s h0
      -- the right survived, so the mover is neither the king nor the rook from that corner
      have hking : hsqS p.stm 4 = src → PT.king ≠ pt := fun _ e => hk e.symm
      have hrook : hsqS p.stm (rookFrom s) = src → PT.rook ≠ pt := fun e e' => hrk e'.symm e.symm
      exact ⟨own_keep he hp b4 rfl hking, own_keep he hp br rfl hrook⟩
  · rw [if_neg (Color.other_ne _)] at hs
    obtain ⟨h0, hd⟩ := oppRights_has hs
    obtain ⟨b4, br⟩ := (rightsOk_iff_has _ _).mp (hr _) s h0
    have hoc := Color.other_ne p.stm
    exact ⟨enemy_keep hv hm b4 hoc (.inl rfl), enemy_keep hv hm br hoc (.inr ⟨by simp, hd⟩)⟩

theorem epAfter_piece {pt : PT} {src dst : Sq} {promo : Option PT} {e : Sq}
    (h : epAfter (.piece pt src dst promo) = some e) :
    pt = .pawn ∧ (dst.rank - src.rank).natAbs = 2 ∧ mkSq? ((src.rank + dst.rank) / 2) dst.file = some e := by
  cases pt <;> simp only [epAfter] at h <;> try cases h
  split at h
  · rename_i h2
    exact ⟨rfl, by simpa using h2, h⟩
  · cases h

theorem validPos_apply_ep_pawn {p : Pos} {src dst : Sq} {promo : Option PT}
    (h : pseudo p .pawn src dst promo = true) : epOk (apply p (.piece .pawn src dst promo)) = true := by
  rw [epOk_iff, apply_eq]
  dsimp only
  intro e hep
  -- an en-passant square arises only from the double push; it is the square `m` passed over, empty before and after, with
  -- the pawn now on `dst` in front of it and the vacated `src` behind it
  obtain ⟨_, h2, hm⟩ := epAfter_piece hep
  obtain ⟨hgeo, hpromo⟩ := pseudo_pawn h
  have ⟨her, hef⟩ := mkSq?_eq_some_iff.1 hm
  rw [Color.other_other]
  have hfw := fwd_cases p.stm
  rcases hgeo with h1 | h1 | h1
  · exfalso; omega
  · obtain ⟨hdf, hdr, hpr, hdn, m, hmid, hmn⟩ := h1
    have ⟨hmr, hmf⟩ := mkSq?_eq_some_iff.1 hmid
    have hem : e = m := sq_ext (by omega) (by omega)
    subst hem
    have hed : e ≠ dst := fun x => by subst x; omega
    have hsd : src ≠ dst := fun x => by subst x; omega
    -- from its home rank the pawn passes the rank of index 2 / 5 (the one `epOk` asks for once the other side is to move)
    -- and stops short of the last rank
    have hrank : e.rank = if p.stm.other = .white then 5 else 2 := by
      cases hc : p.stm <;> simp only [hc, pawnRank, fwd, Color.other] at hpr hmr ⊢ <;> simp <;> omega
    have hlast : dst.rank ≠ lastRank p.stm := by
      cases hc : p.stm <;> simp only [hc, pawnRank, fwd, lastRank] at hpr hdr ⊢ <;> omega
    have hpn : promo = none := by rwa [if_neg hlast] at hpromo
    exact ⟨hrank, applyBoard_piece_eq_none.2 ⟨hed, .inr (.inr hmn)⟩,
      ⟨dst, mkSq?_eq_some_iff.2 (by omega), by rw [applyBoard_piece_dst, hpn]; rfl⟩,
      ⟨src, mkSq?_eq_some_iff.2 (by omega), applyBoard_piece_eq_none.2 ⟨hsd, .inr (.inl rfl)⟩⟩⟩
  · exfalso; omega

theorem validPos_apply_ep {p : Pos} {m : Move} (hm : legal p m = true) : epOk (apply p m) = true := by
  cases m with
  | castle s => rw [epOk_iff]; intro e he; cases he
  | piece pt src dst promo =>
    by_cases hpt : pt = .pawn
    · subst hpt; exact validPos_apply_ep_pawn (legal_piece.1 hm).1
    · rw [epOk_iff, apply_eq]
      intro e he
      exact absurd (epAfter_piece he).1 hpt

/-- C06 at the level of the rules: a legal move leads from a valid position to a valid position -/
theorem validPos_apply (p : Pos) (hv : ValidPos p = true) (m : Move) (hm : legal p m = true) :
    ValidPos (apply p m) = true :=
  (validPos_iff _).2 ⟨validPos_apply_kings hv hm, validPos_apply_notInCheck hm, validPos_apply_rights hv hm, validPos_apply_ep hm⟩

inductive LegalSeqS : Pos → List Move → Prop
  | nil (p : Pos) : LegalSeqS p []
  | cons {p : Pos} {m : Move} {ms : List Move} : legal p m = true → LegalSeqS (apply p m) ms → LegalSeqS p (m :: ms)

theorem validPos_reachable (p : Pos) (hv : ValidPos p = true) (ms : List Move) (h : LegalSeqS p ms) :
    ValidPos (ms.foldl apply p) = true := by
  induction h with
  | nil p => exact hv
  | cons hm _ ih => exact ih (validPos_apply _ hv _ hm)

/-! ### the hypotheses are satisfiable: the initial position and 1. e4 -/

def startBoard : Sq → Option Piece := fun s =>
  let back : Nat → PT := fun f => match f with
    | 0 => .rook | 1 => .knight | 2 => .bishop | 3 => .queen | 4 => .king | 5 => .bishop | 6 => .knight | _ => .rook
  match s.val / 8 with
  | 0 => some ⟨back (s.val % 8), .white⟩
  | 1 => some ⟨.pawn, .white⟩
  | 6 => some ⟨.pawn, .black⟩
  | 7 => some ⟨back (s.val % 8), .black⟩
  | _ => none

def startPos : Pos := ⟨startBoard, .white, fun _ => ⟨true, true⟩, none, 0, 1⟩

example : ValidPos startPos = true ∧ legal startPos (.piece .pawn 12 28 none) = true ∧
    (apply startPos (.piece .pawn 12 28 none)).ep = some 20 := by decide +kernel

example : LegalSeqS startPos [.piece .pawn 12 28 none] := .cons (by decide +kernel) (.nil _)

end Chess
